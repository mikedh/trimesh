/-
C05 — Topological queries equal their combinatorial (counting) definitions.
The property theorems, and the few definitions their statements need (`faceEdges`; `corner`, `pairs` for the generated
edge order); helper lemmas live in Proofs/Topology.lean and Proofs/AngleDefect.lean.
The theorems about a face list hold for an arbitrary one: non-manifold edges, repeated indices inside a face,
repeated faces and unreferenced vertices included (`C05_gauss_bonnet` alone assumes a closed surface).
`C05_components` is about an arbitrary edge list.
-/
import TrimeshVerif.Proofs.Topology
import TrimeshVerif.Proofs.AngleDefect
import TrimeshVerif.Generated.C05Table
namespace TV.C05
open TV TV.Grouping TV.Topology

/-- the three sorted edges of face number `f` -/
def faceEdges (fs : List Face) (f : Nat) : List Edge := ((edgesSorted fs).drop (3 * f)).take 3

/-- edges are, per face and in face order, (a,b), (b,c), (c,a); `edges_face` is the face number -/
theorem C05_edges (fs : List Face) :
    (edges fs).length = 3 * fs.length ∧ (edgesFace fs).length = 3 * fs.length ∧
    (∀ i (h : i < fs.length),
      (edges fs)[3 * i]? = some (fs[i].1, fs[i].2.1) ∧
      (edges fs)[3 * i + 1]? = some (fs[i].2.1, fs[i].2.2) ∧
      (edges fs)[3 * i + 2]? = some (fs[i].2.2, fs[i].1)) ∧
    (∀ k, k < 3 * fs.length → (edgesFace fs)[k]? = some (k / 3)) :=
  ⟨edges_length fs, edgesFace_length fs, edges_getElem? fs, edgesFace_getElem? fs⟩

/-- **face adjacency = counting definition**: `((f, g), e)` is reported iff `f < g`, the sorted
    edge `e` occurs exactly twice among all sorted edges, once in face `f` and once in face `g` -/
theorem C05_adjacency (fs : List Face) (f g : Nat) (e : Edge) :
    ((f, g), e) ∈ faceAdjacency fs ↔
      f < g ∧ (edgesSorted fs).count e = 2 ∧ e ∈ faceEdges fs f ∧ e ∈ faceEdges fs g := by
  rw [faceAdjacency_eq, List.mem_filterMap, faceEdges, faceEdges, mem_drop_take_block (by decide),
    mem_drop_take_block (by decide)]
  -- the row comes from the group `[i, j]` of the two positions of `e`, which lie in the faces `i / 3` and `j / 3`
  constructor
  · rintro ⟨grp, hgrp, hm⟩
    obtain ⟨i, j, rfl, hij, hj, hsame, hc⟩ := (mem_pairGroups fs grp).mp hgrp
    have hi := List.getElem?_eq_getElem (Nat.lt_trans hij hj)
    rw [adjRow_pair fs hij hi, Prod.mk.injEq, Prod.mk.injEq] at hm
    obtain ⟨hlt, ⟨rfl, rfl⟩, rfl⟩ := hm
    exact ⟨hlt, getD_of_getElem? hi ▸ hc, ⟨i, rfl, hi⟩, ⟨j, rfl, hsame ▸ hi⟩⟩
  · rintro ⟨hfg, hc, ⟨i, rfl, hi⟩, ⟨j, rfl, hj⟩⟩
    have hij : i < j := Nat.lt_of_not_le fun h => Nat.not_le_of_lt hfg (Nat.div_le_div_right h)
    exact ⟨[i, j], (mem_pairGroups fs _).mpr ⟨i, j, rfl, hij, (List.getElem?_eq_some_iff.mp hj).1, hi.trans hj.symm,
      (getD_of_getElem? hi).symm ▸ hc⟩, (adjRow_pair fs hij hi _).mpr ⟨hfg, rfl⟩⟩

/-- adjacency rows are not repeated -/
theorem C05_adjacency_nodup (fs : List Face) : (faceAdjacency fs).Nodup := by
  have hd : (pairGroups fs).Pairwise
      (fun g g' => ∀ i ∈ g, ∀ j ∈ g', (edgesSorted fs)[i]? ≠ (edgesSorted fs)[j]?) := by
    rw [pairGroups_eq]; exact (edgeGroups_isGrouping fs).distinct.filter _
  rw [faceAdjacency_eq]
  refine List.Pairwise.filterMap _ ?_ (List.Pairwise.and_mem.mp hd)
  rintro g g' ⟨hg, hg', hne⟩ b hb b' hb' rfl
  obtain ⟨i, j, rfl, hij, hj, _, _⟩ := (mem_pairGroups fs g).mp hg
  obtain ⟨i', j', rfl, hij', hj', _, _⟩ := (mem_pairGroups fs g').mp hg'
  have hi := List.getElem?_eq_getElem (Nat.lt_trans hij hj)
  have hi' := List.getElem?_eq_getElem (Nat.lt_trans hij' hj')
  rw [adjRow_pair fs hij hi] at hb
  rw [adjRow_pair fs hij' hi'] at hb'
  -- equal rows carry equal edges, and the edges of different groups differ
  exact hne i (by simp) i' (by simp) (by rw [hi, hi', (Prod.mk.inj (hb.2.trans hb'.2.symm)).2])

/-- **watertight ⇔ every sorted edge occurs exactly twice** -/
theorem C05_watertight (fs : List Face) :
    isWatertight fs = true ↔ ∀ e ∈ edgesSorted fs, (edgesSorted fs).count e = 2 := by
  have h := edgeGroups_isGrouping fs
  unfold isWatertight
  rw [beq_iff_eq, pairGroups_eq, ← edgesSorted_length, ← List.length_range (n := (edgesSorted fs).length),
    ← h.perm.length_eq, pairs_cover_iff _ h.ne_nil]
  constructor
  · intro hall e he
    obtain ⟨i, hi, rfl⟩ := List.mem_iff_getElem.mp he
    obtain ⟨g, hg, hig⟩ := h.covers hi
    exact h.length_eq_count hg hig (List.getElem?_eq_getElem hi) ▸ hall g hg
  · intro hall g hg
    have hi := headD_mem (d := 0) (h.ne_nil g hg)
    have hlt := h.mem_lt hg hi
    exact h.length_eq_count hg hi (List.getElem?_eq_getElem hlt) ▸ hall _ (List.getElem_mem hlt)

/-- **winding consistent ⇔ each edge that occurs exactly twice is traversed in opposite directions**
    (for the pair `i < j` of its occurrences: end of the first = start of the second) -/
theorem C05_winding (fs : List Face) :
    isWindingConsistent fs = true ↔
      ∀ i j, i < j → j < (edges fs).length →
        (edgesSorted fs)[i]? = (edgesSorted fs)[j]? →
        (edgesSorted fs).count ((edgesSorted fs).getD i (0, 0)) = 2 →
        ((edges fs).getD i (0, 0)).2 = ((edges fs).getD j (0, 0)).1 := by
  unfold isWindingConsistent
  rw [List.all_eq_true]
  constructor
  · intro hall i j hij hj hs hc
    simpa using hall [i, j] ((mem_pairGroups fs _).mpr ⟨i, j, rfl, hij, by rw [edgesSorted_length]; exact hj, hs, hc⟩)
  · intro hall g hg
    obtain ⟨i, j, rfl, hij, hj, hs, hc⟩ := (mem_pairGroups fs g).mp hg
    simpa using hall i j hij (by rw [← edgesSorted_length]; exact hj) hs hc

/-- unique edges are exactly the distinct sorted edges, each once; the inverse reconstructs -/
theorem C05_edges_unique (fs : List Face) :
    (edgesUnique fs).Nodup ∧ (∀ e, e ∈ edgesUnique fs ↔ e ∈ edgesSorted fs) ∧
    (∀ i, i < (edgesSorted fs).length →
      ∃ k, (edgesUniqueInverse fs)[i]? = some k ∧ (edgesUnique fs)[k]? = (edgesSorted fs)[i]?) := by
  unfold edgesUnique edgesUniqueInverse
  rw [uniqueRows_eq, if_neg Bool.false_ne_true, edgeRows, List.length_map]
  exact (edgeGroups_isGrouping fs).unique_values (0, 0)

/-- Euler number = #referenced vertices − #distinct undirected edges + #faces -/
theorem C05_euler (fs : List Face) (nV : Nat) :
    eulerNumber fs nV =
      (((List.range nV).filter (fun v => v ∈ corners fs)).length : Int)
        - (((edgesSorted fs).eraseDups).length : Int) + (fs.length : Int) := by
  unfold eulerNumber
  -- two duplicate-free lists with the same members have the same length
  rw [referenced_count, ((List.perm_ext_iff_of_nodup (C05_edges_unique fs).1 (eraseDups_nodup (edgesSorted fs))).mpr
    (fun e => by rw [List.mem_eraseDups]; exact (C05_edges_unique fs).2.1 e)).length_eq]

/-- degree and incident faces by direct counting (one per occurrence of the vertex).  `(nV, nV, nV)` stands for
    the face at a number out of range: none of its corners is `v`, so such a number is counted 0 times. -/
theorem C05_vertex_faces (fs : List Face) (nV v : Nat) (hv : v < nV) :
    (vertexDegree fs nV)[v]? = some ((corners fs).count v) ∧
    ∃ l, (vertexFaces fs nV)[v]? = some l ∧ l.length = (corners fs).count v ∧
      ∀ f, l.count f = ([(fs.getD f (nV, nV, nV)).1, (fs.getD f (nV, nV, nV)).2.1,
                         (fs.getD f (nV, nV, nV)).2.2]).count v := by
  refine ⟨getElem?_map_range _ hv, _, getElem?_map_range _ hv, ?_, ?_⟩
  · rw [List.length_map, ← List.countP_eq_length_filter, List.count_eq_countP]
    have : (corners fs) = ((corners fs).zipIdx).map (·.1) := by rw [List.zipIdx_map_fst]
    conv => rhs; rw [this, List.countP_map]
    rfl
  · exact cornerFaces_count v (nV, nV, nV) (by simp; omega) fs

/-- neighbours: `w` is a neighbour of `v` iff `{v, w}` is an (undirected) edge of some face -/
theorem C05_neighbors (fs : List Face) (nV v w : Nat) (hv : v < nV) :
    (∃ l, (vertexNeighbors fs nV)[v]? = some l ∧ l.Nodup ∧
      (w ∈ l ↔ sortEdge (v, w) ∈ edgesSorted fs)) := by
  refine ⟨_, getElem?_map_range _ hv, eraseDups_nodup _, ?_⟩
  rw [List.mem_eraseDups, List.mem_mergeSort, List.mem_filterMap]
  simp only [(C05_edges_unique fs).2.1]
  constructor
  · rintro ⟨e, he, hm⟩
    exact (neighbor_eq_some_iff (edgesSorted_le fs e he) v w).mp hm ▸ he
  · intro he
    exact ⟨_, he, (neighbor_eq_some_iff (edgesSorted_le fs _ he) v w).mpr rfl⟩

/-- column `k` of a face row -/
def corner (f : Face) : Nat → Nat
  | 0 => f.1
  | 1 => f.2.1
  | _ => f.2.2

/-- `.reshape((-1, 2))` -/
def pairs : List Nat → List Edge
  | a :: b :: t => (a, b) :: pairs t
  | _ => []

/-- **(G) the edge order of the source is the model's**: the face columns `geometry.faces_to_edges` lists (read from
    the current source by `ast`), reshaped to pairs, give for every face array exactly the model's `edges` - per face
    `(a,b), (b,c), (c,a)` in face order - and the source takes as face index of the edges the face numbers tiled three
    times, the `edgesFace` of the model -/
theorem C05_edges_of_source (fs : List Face) :
    fs.flatMap (fun f => pairs (TV.Generated.C05.edgeColumns.map (corner f))) = edges fs ∧
    TV.Generated.C05.faceIndexExpr = "np.tile(np.arange(len(faces)), (3, 1)).T.reshape(-1)" :=
  ⟨rfl, by decide⟩

/-- **unshared vertex = the corner off the shared edge, by counting**: the reported vertex is a corner of the face
    that is neither end of the edge, and it is reported exactly when one corner (counted with multiplicity)
    qualifies; in particular for a face with three different corners that contains both ends of the edge it is
    the third corner, and for a degenerate face that has no or several such corners nothing (`-1`) is reported -/
theorem C05_unshared (f : Face) (e : Edge) :
    (∀ v, unsharedOf f e = some v ↔ [f.1, f.2.1, f.2.2].filter (fun x => x != e.1 && x != e.2) = [v]) ∧
    (∀ v, unsharedOf f e = some v → (v = f.1 ∨ v = f.2.1 ∨ v = f.2.2) ∧ v ≠ e.1 ∧ v ≠ e.2) ∧
    (unsharedOf f e = none ↔ ([f.1, f.2.1, f.2.2].filter (fun x => x != e.1 && x != e.2)).length ≠ 1) := by
  unfold unsharedOf
  -- `unsharedOf` looks at the filtered corner list `L` only: it is `some v` exactly when `L = [v]`
  have key : ∀ (L : List Nat) (v : Nat), (match L with | [v] => some v | _ => none) = some v ↔ L = [v] := by
    intro L v; split <;> simp_all
  refine ⟨fun v => key _ v, fun v hv => ?_, ?_⟩
  · have hm : v ∈ [f.1, f.2.1, f.2.2].filter (fun x => x != e.1 && x != e.2) := by rw [(key _ v).mp hv]; simp
    simpa [and_assoc] using List.mem_filter.mp hm
  · generalize [f.1, f.2.1, f.2.2].filter (fun x => x != e.1 && x != e.2) = L
    match L with
    | [] | [v] | _ :: _ :: _ => simp

/-- instance: faces (a, b, c) and (b, a, d) sharing the edge {a, b}, all four vertices different: the unshared
    vertices are `c` and `d` -/
theorem C05_unshared_manifold (a b c d : Nat) (hab : a ≠ b) (hac : a ≠ c) (hbc : b ≠ c) (had : a ≠ d) (hbd : b ≠ d) :
    unsharedOf (a, b, c) (sortEdge (a, b)) = some c ∧ unsharedOf (b, a, d) (sortEdge (a, b)) = some d := by
  unfold unsharedOf
  rcases Nat.lt_or_ge a b with h | h
  · rw [sortEdge_of_le (Nat.le_of_lt h)]
    simp [Ne.symm hac, Ne.symm hbc, Ne.symm had, Ne.symm hbd]
  · rw [sortEdge_comm, sortEdge_of_le h]
    simp [Ne.symm hac, Ne.symm hbc, Ne.symm had, Ne.symm hbd]

/-- **components = reflexive–transitive closure of adjacency**: two nodes share a component iff
    they are connected; every node is in exactly one component.  `components` models both values of `engine=` of
    `graph.connected_components` (scipy, networkx): the result does not depend on how the closure is computed. -/
theorem C05_components (n : Nat) (es : List (Nat × Nat)) (a b : Nat) (ha : a < n) (hb : b < n) :
    ((∃ g ∈ components n es 1, a ∈ g ∧ b ∈ g) ↔ Conn n es a b) ∧
    (components n es 1).flatten.count a = 1 := by
  obtain ⟨hlen, hspec⟩ := labels_spec n es
  have h := groupsOf_isGrouping natLe_isOrder (labels n es)
  have hc : components n es 1 = groupsOf natLe (labels n es) :=
    List.filter_eq_self.mpr fun g hg => by simpa [lenOk] using Nat.succ_le_of_lt (List.length_pos_iff.mpr (h.ne_nil g hg))
  rw [hc]
  refine ⟨?_, h.count_one (by omega)⟩
  rw [h.same_group_iff (by omega) (by omega), ← hspec a b ha hb]
  simp [List.getD_eq_getElem?_getD, hlen, ha, hb]

/-! non-vacuity: the hypotheses of the theorems above are only index bounds; concrete meshes
    (tetrahedron, cube, non-manifold fans) are evaluated through the driver in the correspondence run
    (`decide` cannot evaluate `List.mergeSort`, which is defined by well-founded recursion). -/

/-! ### vertex_defects: the angle-defect law -/

section defects
open TV.AngleDefect
variable {K : Type} [CommRing K]

/-- **angle-defect law (any mesh)**: give every face three corner angles that add up to `π` (whatever they
    are, `π` any element of the ring); then the defects `2π − (sum of the angles at the vertex)` of the
    referenced vertices add up to `π (2 V − F)` — non-manifold edges, repeated faces and unreferenced
    vertices included -/
theorem C05_defect_sum (pi : K) (fa : List (FA K)) (n : Nat)
    (hang : ∀ x ∈ fa, x.2.1 + x.2.2.1 + x.2.2.2 = pi)
    (hn : ∀ v ∈ corners (fa.map (·.1)), v < n) :
    ((Finset.range n).filter (fun v => v ∈ corners (fa.map (·.1)))).sum (defect pi fa)
      = pi * (2 * (((Finset.range n).filter (fun v => v ∈ corners (fa.map (·.1)))).card : K) - fa.length) := by
  unfold defect
  -- a vertex that is no corner has angle sum 0, so the angle sums may be added over all of `range n`
  rw [Finset.sum_sub_distrib, Finset.sum_const, nsmul_eq_mul,
    Finset.sum_subset (Finset.filter_subset _ _) fun v hv hnv => angleSum_unreferenced _ v
      (cornerAngles_keys fa ▸ fun hc => hnv (Finset.mem_filter.mpr ⟨hv, hc⟩)),
    sum_angleSum n _ (cornerAngles_keys fa ▸ hn), cornerAngles_total pi fa hang]
  ring

/-- **discrete Gauss-Bonnet**: on a closed surface (every undirected edge used exactly twice — what
    `C05_watertight` says `is_watertight` tests) the defects add up to `2π · (V − E + F)`, the Euler number
    of `C05_euler` -/
theorem C05_gauss_bonnet (pi : K) (fa : List (FA K)) (n : Nat)
    (hang : ∀ x ∈ fa, x.2.1 + x.2.2.1 + x.2.2.2 = pi)
    (hn : ∀ v ∈ corners (fa.map (·.1)), v < n)
    (hclosed : ∀ e ∈ edgesSorted (fa.map (·.1)), (edgesSorted (fa.map (·.1))).count e = 2) :
    ((Finset.range n).filter (fun v => v ∈ corners (fa.map (·.1)))).sum (defect pi fa)
      = 2 * pi * ((((Finset.range n).filter (fun v => v ∈ corners (fa.map (·.1)))).card : K)
          - ((edgesSorted (fa.map (·.1))).eraseDups.length : K) + (fa.length : K)) := by
  rw [C05_defect_sum pi fa n hang hn]
  have hE := eraseDups_length_of_twice _ hclosed
  rw [edgesSorted_length, edges_length, List.length_map] at hE
  have hE' : (2 : K) * ((edgesSorted (fa.map (·.1))).eraseDups.length : K) = 3 * (fa.length : K) := by
    exact_mod_cast congrArg (Nat.cast : Nat → K) hE
  linear_combination pi * hE'

/-- non-vacuity: the tetrahedron with all angles `π/3` (here `π = 3`, angles `1`) is closed, and its four
    defects `2·3 − 3·1 = 3` add up to `12 = 2 · 3 · (4 − 6 + 4)` -/
example :
    let fa : List (FA Int) := [((0, 2, 1), (1, 1, 1)), ((0, 1, 3), (1, 1, 1)), ((1, 2, 3), (1, 1, 1)),
      ((0, 3, 2), (1, 1, 1))]
    (∀ x ∈ fa, x.2.1 + x.2.2.1 + x.2.2.2 = 3) ∧
    (∀ e ∈ edgesSorted (fa.map (·.1)), (edgesSorted (fa.map (·.1))).count e = 2) ∧
    (∀ v ∈ corners (fa.map (·.1)), v < 4) := by decide

end defects

end TV.C05
