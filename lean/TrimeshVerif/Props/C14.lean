/-
C14 — Paths rebuild the same regions from segments in any order.
The lemmas these rest on live in Proofs/Path.lean and Proofs/Enclosure.lean.
-/
import TrimeshVerif.Proofs.Path
import TrimeshVerif.Generated.C14Arc
import TrimeshVerif.Proofs.Enclosure
import Mathlib.Tactic.Ring
namespace TV.C14
open TV.Path

/-- the swept area is the sum over the directed segments -/
theorem C14_sum_segs (l : List P2) : openSum l = ((segs l).map (fun s => cross2 s.1 s.2)).sum :=
  openSum_eq_sum_segs l

/-- **any order**: two vertex loops made of the same directed segments in any order (start anywhere, entities
    listed in any order) enclose the same signed area -/
theorem C14_area_perm (l1 l2 : List P2) (h : (segs l1).Perm (segs l2)) : openSum l1 = openSum l2 := by
  rw [openSum_eq_sum_segs, openSum_eq_sum_segs]; exact (h.map _).sum_eq

/-- and the same total squared-length multiset, hence the same length -/
theorem C14_length_perm (l1 l2 : List P2) (h : (segs l1).Perm (segs l2)) : (sqLens l1).Perm (sqLens l2) :=
  h.map _

/-- **either direction**: walking a polyline backwards negates the swept area and keeps every segment length -/
theorem C14_reverse (l : List P2) : openSum l.reverse = - openSum l ∧ (sqLens l.reverse).Perm (sqLens l) := by
  refine ⟨openSum_reverse l, ?_⟩
  unfold sqLens
  rw [segs_reverse, List.map_reverse, List.map_map]
  exact (List.reverse_perm _).trans (.of_eq (List.map_congr_left fun s _ => sqLen_comm s.2 s.1))

/-- **any splitting**: chaining pieces (each starting where the previous ended) adds up their swept areas -/
theorem C14_join (ps : List (List P2)) (h : chained ps = true) :
    openSum (joinChain ps) = (ps.map openSum).sum :=
  match ps, h with
  | [], _ => rfl
  | [p], _ => (add_zero _).symm
  | p :: q :: rest, h => by
    obtain ⟨hp, hpq, hc⟩ := (chained_cons_cons p q rest).1 h
    change openSum (p ++ (joinChain (q :: rest)).tail) = openSum p + ((q :: rest).map openSum).sum
    rw [openSum_append_tail p _ hp (hpq.trans (head?_joinChain q rest hc).symm), C14_join _ hc]

/-- entities traversed backwards by the walk contribute with the opposite sign: the loop rebuilt from
    entities in stored direction `e.1` and walk direction `e.2` has area Σ ± openSum -/
theorem C14_join_oriented (es : List (List P2 × Bool)) (h : chained (es.map orient) = true) :
    openSum (joinChain (es.map orient)) = (es.map (fun e => if e.2 then - openSum e.1 else openSum e.1)).sum := by
  rw [C14_join _ h, List.map_map]
  congr 1
  apply List.map_congr_left
  intro e _
  exact openSum_orient e

/-- **affine maps**: the signed area of a closed loop is multiplied by the determinant (so by s² under a
    similarity, by ±1 under a rigid map or a mirror), whatever the translation -/
theorem C14_affine_area (A : M2) (t : P2) (l : List P2) (hc : isClosed l = true) :
    openSum (l.map (apply A t)) = det2 A * openSum l := by
  cases l with
  | nil => simp
  | cons a l =>
    rw [isClosed_cons, beq_iff_eq] at hc
    rw [openSum_map_apply, ← hc]
    ring

/-- **similarities scale every segment length by s** (squared lengths by s²) -/
theorem C14_similarity_length (A : M2) (t : P2) (s2 : Rat)
    (h1 : A.1.1 * A.1.1 + A.2.1 * A.2.1 = s2) (h2 : A.1.2 * A.1.2 + A.2.2 * A.2.2 = s2)
    (h3 : A.1.1 * A.1.2 + A.2.1 * A.2.2 = 0) (a b : P2) :
    sqLen (apply A t a) (apply A t b) = s2 * sqLen a b := by
  obtain ⟨⟨a11, a12⟩, ⟨a21, a22⟩⟩ := A
  obtain ⟨t1, t2⟩ := t
  obtain ⟨x1, y1⟩ := a
  obtain ⟨x2, y2⟩ := b
  simp only [sqLen, apply] at *
  linear_combination ((x1 - x2) * (x1 - x2)) * h1 + ((y1 - y2) * (y1 - y2)) * h2
    + (2 * (x1 - x2) * (y1 - y2)) * h3

/-- **three-point arc centre** is equidistant from the three control points -/
theorem C14_arc_center (p0 p1 p2 o : P2) (h : arcCenter p0 p1 p2 = some o) :
    sqLen o p0 = sqLen o p1 ∧ sqLen o p1 = sqLen o p2 := by
  unfold arcCenter at h
  dsimp only at h
  split at h
  · cases h
  · next hs =>
    cases h
    exact equidist_of_weights p0 p1 p2 _ _ _ _ hs (div_mul_cancel₀ _ hs) (div_mul_cancel₀ _ hs) (by ring) (by ring)

/-- collinear control points have no centre (`arc is colinear`) -/
theorem C14_arc_collinear (p0 p1 p2 : P2) (h : cross2 (sub2 p1 p0) (sub2 p2 p0) = 0) : arcCenter p0 p1 p2 = none := by
  have hs := arc_weight_sum p0 p1 p2
  rw [h] at hs
  simp only [mul_zero] at hs
  unfold arcCenter
  simp only [hs, if_true]

/-- the area of a region does not depend on the direction in which its shell and holes are stored -/
theorem C14_region_orientation (shell : List P2) (holes : List (List P2)) :
    regionArea2 shell.reverse (holes.map List.reverse) = regionArea2 shell holes := by
  unfold regionArea2
  rw [openSum_reverse, absR_neg, List.map_map]
  congr 2
  apply List.map_congr_left
  intro h _
  simp only [Function.comp, openSum_reverse, absR_neg]

/-! ### (G) `arc_center` traced from the source (Generated/C14Arc.lean) -/

section arcsrc
open TV.Generated.C14

/-- (G) **the centre the code computes is the centre of the model**: same weights, same denominator, for every
    three control points (so `C14_arc_center` and `C14_arc_collinear` are statements about the source) -/
theorem C14_arc_center_of_source (x0 y0 x1 y1 x2 y2 : Rat) (hd : centerDen x0 y0 x1 y1 x2 y2 ≠ 0) :
    arcCenter (x0, y0) (x1, y1) (x2, y2) =
      some (centerNumX x0 y0 x1 y1 x2 y2 / centerDen x0 y0 x1 y1 x2 y2,
            centerNumY x0 y0 x1 y1 x2 y2 / centerDen x0 y0 x1 y1 x2 y2) := by
  have e := (arc_weight_sum (x0, y0) (x1, y1) (x2, y2)).trans
    (by simp only [cross2, sub2, centerDen]; ring : _ = centerDen x0 y0 x1 y1 x2 y2)
  unfold arcCenter
  simp only [e, hd, if_false, Option.some.injEq, Prod.mk.injEq]
  constructor
  · congr 1; simp only [sqLen, centerNumX]; ring
  · congr 1; simp only [sqLen, centerNumY]; ring

end arcsrc


/-! ### shells and holes (`enclosure_tree`) -/

section enclosure
open TV.Enclosure
variable {n : Nat} {C : Fin n → Fin n → Prop} [DecidableRel C]

/-- **nesting into shells and holes**: order the closed polygons by containment (nested or disjoint curves: a strict
    order in which the containers of a polygon form a chain) and count for each how many contain it.  Then a polygon
    contained `k` times has exactly one container of every degree below `k`; in particular every polygon of odd
    degree is the hole of exactly one shell - a polygon of even degree, one less than its own, that contains it -
    which is the rule `enclosure_tree` applies; polygons of equal degree never contain one another -/
theorem C14_enclosure (h : Laminar C) (c : Fin n) :
    (∀ d, d < deg C c → ∃! r, C r c ∧ deg C r = d) ∧
    (deg C c % 2 = 1 → ∃! r, deg C r % 2 = 0 ∧ deg C c = deg C r + 1 ∧ C r c) ∧
    (∀ a, deg C a = deg C c → ¬ C a c) := by
  refine ⟨fun d hd => exists_unique_container h c d hd, fun hodd => ?_, fun a ha hac => ?_⟩
  · obtain ⟨r, ⟨hrc, hrd⟩, huniq⟩ := exists_unique_container h c (deg C c - 1) (by omega)
    refine ⟨r, ⟨by omega, by omega, hrc⟩, ?_⟩
    rintro r' ⟨_, hd, hc⟩
    exact huniq r' ⟨hc, by omega⟩
  · have := deg_lt h hac
    omega

end enclosure

end TV.C14
