/-
C20 — Loading arbitrary or corrupted bytes terminates with a clean outcome.
The theorems of C20 (lemmas in Proofs/Load.lean), and `argsContract`, the contract of `_parse_file_args` that
`C20_parse_file_args_contract` checks on the skeletons read from the source.  Termination of every decoder below is
what Lean's definitional check already established (all are structurally recursive, no fuel supplied by the
caller except `binChunks`, whose fuel is the input length); the theorems bound the work and the allocation
by the input size and show that the resource skeleton closes what it opens.
-/
import TrimeshVerif.Proofs.Load
import TrimeshVerif.Generated.C20Skeleton
import TrimeshVerif.Generated.C20Strided
namespace TV.C20
open TV.Codec TV.Load

/-- the enumerator misses no execution: every execution of the relational semantics is in `runBlock` -/
theorem C20_run_complete (prog : List Stmt) (s s' : St) (st : Status) (h : ExecBlock prog s s' st) :
    (s', st) ∈ runBlock prog s :=
  execBlock_mem h

/-- **a file the loader opened itself is closed on every path**: if the (generated) skeleton passes the
    decidable check, no execution - normal return, early return, exception from any call, explicit raise -
    ends with the file still open -/
theorem C20_closes (prog : List Stmt) (h : safe prog = true) (s' : St) (st : Status)
    (he : ExecBlock prog {} s' st) : s'.leak = false := by
  unfold safe at h
  simpa using List.all_eq_true.1 h _ (execBlock_mem he)

/-- the check is not vacuous: forgetting to set `was_opened` on one branch is caught, the correct shape passes -/
theorem C20_leak_witness :
    safe [.branch [[.openFile, .branch [[.setFlag], []]], []], .tryFinally [.mayRaise] [.closeIfFlag]] = false ∧
    safe [.branch [[.openFile, .setFlag], [.raise], []], .tryFinally [.mayRaise, .ret] [.closeIfFlag]] = true := by
  decide

/-- **binary STL never allocates beyond the input**: an accepted file has exactly the announced length (the first half
    of `C08_stl_accepts_length`, seen from C20) -/
theorem C20_stl_alloc (b hdr : Bytes) (recs : List StlRec) (h : decodeStl b = .ok (hdr, recs)) :
    84 + 50 * recs.length = b.length :=
  (decodeStl_accepts b hdr recs h).1.symm

/-- a binary STL whose count field disagrees with the data length is rejected before any record is read -/
theorem C20_stl_rejects (b : Bytes) (h84 : 84 ≤ b.length) (hne : b.length - 84 ≠ 50 * de32 ((b.drop 80).take 4)) :
    decodeStl b = .error .badLength := by
  unfold decodeStl
  rw [if_neg (by omega), if_pos hne]

/-- **GLB: everything read is bounded by the bytes present** (chunk lengths are checked against the data) -/
theorem C20_glb_alloc (b json : Bytes) (cs : List Bytes) (h : decodeGlb b = .ok (json, cs)) :
    json.length + (cs.map List.length).sum + 8 * cs.length ≤ b.length := by
  revert h
  fun_cases decodeGlb b
  -- all guards passed (`hcl`: the JSON chunk fits) and the chunk loop returned `cs'`
  case case6 hcl js rest cs' hrec =>
    intro h
    obtain ⟨rfl, rfl⟩ := Prod.mk.inj (Except.ok.inj h)
    have := binChunks_bound _ _ _ _ _ hrec
    simp only [js, rest, List.length_drop, List.length_take] at this hcl ⊢
    omega
  -- every other branch is an error
  all_goals nofun

/-- the GLB chunk loop runs at most once per 8 bytes of input -/
theorem C20_glb_steps (fuel : Nat) (rest : Bytes) (consumed length : Nat) (cs : List Bytes)
    (h : binChunks fuel rest consumed length = .ok cs) : 8 * cs.length ≤ rest.length := by
  have := binChunks_bound fuel rest consumed length cs h
  omega

/-- **the PLY header scan consumes each line at most once** -/
theorem C20_scan_steps (lines : List (List String)) (acc : List Elem) (n : Nat) (es : List Elem) (k : Nat)
    (h : scanHeader lines acc n = .ok (es, k)) : n < k ∧ k ≤ n + lines.length ∧ es.length ≤ acc.length + lines.length :=
  (scanHeader_ok lines acc n es k h).2

/-- **a header that never reaches `end_header` is rejected** (truncated files do not hang) -/
theorem C20_scan_eof (lines : List (List String)) (acc : List Elem) (n : Nat)
    (h : ∀ l ∈ lines, l.contains "end_header" = false) : ∃ e, scanHeader lines acc n = .error e :=
  match hr : scanHeader lines acc n with
  | .error e => ⟨e, rfl⟩
  | .ok (es, k) => by
    -- an accepted scan has seen `end_header`
    obtain ⟨⟨l, hl, hc⟩, -⟩ := scanHeader_ok lines acc n es k hr
    rw [h l hl] at hc
    cases hc

/-! ### the skeletons read from the current source (Generated/C20Skeleton.lean, rewritten on every run) -/

/-- contract of `_parse_file_args`: it returns with `was_opened` set whenever it opened a file, and it does
    not raise after opening one -/
def argsContract (prog : List Stmt) : Bool :=
  (runBlock prog {}).all (fun r => if r.2 = .raised then !r.1.leak else (!r.1.opened || r.1.flag))

theorem C20_parse_file_args_contract :
    argsContract TV.Generated.parseFileArgsPath = true ∧ argsContract TV.Generated.parseFileArgsOther = true := by
  decide

/-- **`load` / `load_mesh` / `load_scene` given a path close the file they opened, on every path** -/
theorem C20_load_scene_closes (s' : St) (st : Status) (he : ExecBlock TV.Generated.loadScenePath {} s' st) :
    s'.leak = false := C20_closes _ (by decide) s' st he

/-- **`load_path` given a path closes the file it opened, on every path** -/
theorem C20_load_path_closes (s' : St) (st : Status) (he : ExecBlock TV.Generated.loadPathPath {} s' st) :
    s'.leak = false := C20_closes _ (by decide) s' st he

/-- given anything but a path, the loaders open nothing themselves -/
theorem C20_other_inputs_open_nothing :
    safe TV.Generated.loadSceneOther = true ∧ safe TV.Generated.loadPathOther = true ∧
    (runBlock TV.Generated.loadSceneOther {}).all (fun r => !r.1.opened) = true ∧
    (runBlock TV.Generated.loadPathOther {}).all (fun r => !r.1.opened) = true := by
  decide

/-- the generated skeletons really contain the open they are about (not vacuous) -/
theorem C20_skeleton_opens :
    (runBlock TV.Generated.loadScenePath {}).any (fun r => r.1.opened) = true ∧
    (runBlock TV.Generated.loadPathPath {}).any (fun r => r.1.opened) = true := by
  decide

/-- **glTF interleaved accessors never read outside the buffer view**: when the two guards of the `byteStride` branch
    hold, every byte of every row of the strided view lies inside the data (`0 ≤ position < len(data)`), for every
    row count, stride, row width and offset a file can announce - `as_strided` itself checks nothing, so this is
    what stands between a corrupt `byteStride` / `count` and a read of foreign memory -/
theorem C20_glb_strided_in_bounds (n start stride count perRow i j : Int)
    (h : stridedOk n start stride count perRow = true)
    (hi0 : 0 ≤ i) (hi : i < count) (hj0 : 0 ≤ j) (hj : j < perRow) :
    0 ≤ stridedIndex start stride i j ∧ stridedIndex start stride i j < n := by
  obtain ⟨hs, h0, _, hn⟩ := (stridedOk_iff _ _ _ _ _).mp h
  unfold stridedIndex
  have h1 : i * stride ≤ (count - 1) * stride := Int.mul_le_mul_of_nonneg_right (by omega) (by omega)
  have h2 : 0 ≤ i * stride := Int.mul_nonneg hi0 (by omega)
  generalize i * stride = a at *
  generalize (count - 1) * stride = b at *
  omega

/-- and what is copied out of it is bounded by the bytes present: at most `per_row` bytes per byte of the view
    (rows may overlap when the stride is shorter than a row; a row is at most one 4x4 float matrix) -/
theorem C20_glb_strided_alloc (n start stride count perRow : Int)
    (h : stridedOk n start stride count perRow = true) (hc : 1 ≤ count) (hp : 0 ≤ perRow) :
    count * perRow ≤ (n - start + 1) * perRow := by
  obtain ⟨hs, h0, _, hn⟩ := (stridedOk_iff _ _ _ _ _).mp h
  apply Int.mul_le_mul_of_nonneg_right _ hp
  have h1 : (count - 1) * 1 ≤ (count - 1) * stride := Int.mul_le_mul_of_nonneg_left (by omega) (by omega)
  generalize (count - 1) * stride = b at *
  omega

/-- **(G) the guards and the view of the source are the model's**: read from `gltf._read_buffers` by `ast` on every
    run - both asserts, standing before the view is built, the definition of `length`, the shape and strides handed
    to `as_strided` and the byte window taken with `frombuffer(offset=start, count=length)` -/
theorem C20_glb_strided_of_source :
    TV.Generated.C20.stridedGuards = ["stride > 0", "0 <= start <= start + length <= len(data)"] ∧
    TV.Generated.C20.stridedGuardsFirst = true ∧
    TV.Generated.C20.stridedLength = "(count - 1) * stride + per_row" ∧
    TV.Generated.C20.stridedShape = "[count, per_row]" ∧ TV.Generated.C20.stridedStrides = "[stride, 1]" ∧
    TV.Generated.C20.stridedWindow = [("count", "length"), ("dtype", "np.uint8"), ("offset", "start")] := by
  decide

/-- non-vacuity: an interleaved view of three 12-byte rows, 16 bytes apart, 4 bytes into 48 bytes passes the guards;
    the same with a row count of 2^40 does not -/
example : stridedOk 48 4 16 3 12 = true ∧ stridedOk 48 4 16 (2 ^ 40) 12 = false ∧ stridedOk 48 4 0 3 12 = false := by
  decide

end TV.C20
