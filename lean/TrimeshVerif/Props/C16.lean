/-
C16 — Convex hulls and bounding volumes contain what they bound.
Soundness of the checkers of Model/Bounds.lean, which the harness runs on the implementation's real outputs
converted to exact rationals; the lemmas these rest on live in Proofs/Bounds.lean.
-/
import TrimeshVerif.Proofs.Bounds
import TrimeshVerif.Model.RevolveGrid
namespace TV.C16
open TV.Query TV.Bounds

/-- **accepted hull contains every input point**: every input point is at most `eps` above every face plane -/
theorem C16_hull_contains (eps : Rat) (pts hv : List P) (hf : List Face) (ts : List Tri)
    (ht : trisOf hv hf = some ts) (h : hullCheck eps pts hv hf = true) :
    ∀ t ∈ ts, ∀ p ∈ pts, below eps t p = true :=
  ((hullCheck_iff eps pts hv hf ts ht).mp h).2.1

/-- **hull vertices are input points**, the surface is closed, consistently wound and encloses positive volume -/
theorem C16_hull_valid (eps : Rat) (pts hv : List P) (hf : List Face) (ts : List Tri)
    (ht : trisOf hv hf = some ts) (h : hullCheck eps pts hv hf = true) :
    (∀ v ∈ hv, v ∈ pts) ∧ TV.Topology.isWatertight hf = true ∧
    TV.Topology.isWindingConsistent hf = true ∧ 0 < vol6 ts := by
  obtain ⟨h1, _, h3, h4, h5⟩ := (hullCheck_iff eps pts hv hf ts ht).mp h
  exact ⟨h1, h3, h4, h5⟩

/-- **convexity**: the region below a face plane (within `eps`) is convex, so with the two theorems above
    every point of every segment between input points - hence their whole convex hull - is inside -/
theorem C16_below_convex (eps : Rat) (t : Tri) (p q : P) (s : Rat) (hs0 : 0 ≤ s) (hs1 : s ≤ 1)
    (hp : below eps t p = true) (hq : below eps t q = true) :
    below eps t (lerp p q s) = true := by
  rw [below_iff] at hp hq ⊢
  rw [height_lerp]
  exact nonpos_or_sq_le_convex _ _ s _ hs0 hs1 hp hq

/-- **outward winding is what the checker tests**: reversing a face negates the height of every point -/
theorem C16_flip_height (a b c p : P) : height (a, c, b) p = - height (a, b, c) p := by
  obtain ⟨a1, a2, a3⟩ := a
  obtain ⟨b1, b2, b3⟩ := b
  obtain ⟨c1, c2, c3⟩ := c
  obtain ⟨p1, p2, p3⟩ := p
  simp only [height, normal, dot, sub, cross]
  ring

/-- so a face wound inwards is rejected (at `eps = 0`) as soon as one input point is strictly off its plane on the
    inner side -/
theorem C16_inward_rejected (a b c p : P) (h : height (a, b, c) p < 0) : below 0 (a, c, b) p = false := by
  rw [Bool.eq_false_iff]
  intro hb
  rw [below_iff, C16_flip_height] at hb
  have hpos := neg_pos.2 h
  rcases hb with hb | hb
  · exact not_le.2 hpos hb
  · rw [zero_mul, zero_mul] at hb
    exact not_le.2 (mul_pos hpos hpos) hb

/-- **axis-aligned bounds are exact**: every point is inside and each of the six bounds is attained -/
theorem C16_aabb (pts : List P) (lo hi : P) (h : aabbCheck pts lo hi = true) :
    (∀ p ∈ pts, lo.1 ≤ p.1 ∧ lo.2.1 ≤ p.2.1 ∧ lo.2.2 ≤ p.2.2 ∧ p.1 ≤ hi.1 ∧ p.2.1 ≤ hi.2.1 ∧ p.2.2 ≤ hi.2.2) ∧
    (∃ p ∈ pts, p.1 = lo.1) ∧ (∃ p ∈ pts, p.2.1 = lo.2.1) ∧ (∃ p ∈ pts, p.2.2 = lo.2.2) ∧
    (∃ p ∈ pts, p.1 = hi.1) ∧ (∃ p ∈ pts, p.2.1 = hi.2.1) ∧ (∃ p ∈ pts, p.2.2 = hi.2.2) :=
  (aabbCheck_iff pts lo hi).mp h

/-- **oriented box contains the geometry**: the transform maps every point into the reported extents -/
theorem C16_obb_contains (eps : Rat) (pts : List P) (T : Rigid) (ext : P) (h : obbCheck eps pts T ext = true) :
    ∀ p ∈ pts, let q := T.apply p
      absR q.1 ≤ ext.1 / 2 + eps ∧ absR q.2.1 ≤ ext.2.1 / 2 + eps ∧ absR q.2.2 ≤ ext.2.2 / 2 + eps := by
  simp only [obbCheck, Bool.and_eq_true, List.all_eq_true] at h
  intro p hp
  exact (inBox_iff eps ext (T.apply p)).mp (h.2 p hp)

/-- an exactly orthonormal transform preserves all distances (rigid) -/
theorem C16_rigid_exact (T : Rigid) (h : T.isExact) (p q : P) :
    dist2 (T.apply p) (T.apply q) = dist2 p q := by
  obtain ⟨h00, h11, h22, h01, h02, h12⟩ := h
  rw [rigid_dist2, ortho_norm _ _ _ h00 h11 h22 h01 h02 h12]
  rfl

/-- **bounding sphere contains every point** -/
theorem C16_sphere_contains (eps : Rat) (pts : List P) (c : P) (r : Rat) (h : sphereCheck eps pts c r = true) :
    ∀ p ∈ pts, dist2 p c ≤ (r + eps) * (r + eps) := by
  simp only [sphereCheck, Bool.and_eq_true, List.all_eq_true, decide_eq_true_eq] at h
  exact h.2

/-- **bounding sphere is minimal**: with an accepted certificate, every ball (any centre `c'`, squared radius
    `R2`) that contains all the points has `R2 ≥ (r - eps)²` -/
theorem C16_sphere_minimal (eps delta : Rat) (pts : List P) (c : P) (r : Rat) (ws : List Rat) (qs : List P)
    (h : sphereMinCheck eps delta pts c r ws qs = true) (c' : P) (R2 : Rat)
    (hall : ∀ p ∈ pts, dist2 p c' ≤ R2) :
    (r - eps) * (r - eps) ≤ R2 := by
  simp only [sphereMinCheck, Bool.and_eq_true, List.all_eq_true, decide_eq_true_eq, beq_iff_eq,
    List.contains_iff_mem] at h
  obtain ⟨⟨⟨⟨⟨⟨hlen, _⟩, hw⟩, hsum⟩, hq⟩, he⟩, _⟩ := h
  -- expanding `|q - c'|²` around `c` bounds every support point, hence their mean, along `c - c'`
  have hb := wsum_dot_le (sub c c') ((R2 - (r * r - delta) - dot (sub c c') (sub c c')) / 2 + dot c (sub c c')) ws qs (0, 0, 0) hw
    (fun q hqm => by linarith [dist2_shift q c c', (hq q hqm).2, hall q (hq q hqm).1]) hlen
  have hz : dot ((0, 0, 0) : P) (sub c c') = 0 := by simp [dot]
  have hm := neg_dot_self_le (sub (wsum ws qs) c) (sub c c')
  rw [dot_sub_left (wsum ws qs) c (sub c c')] at hm
  rw [hsum, hz] at hb
  unfold wsum at he hm
  linarith

/-- **bounding cylinder contains every point**: `p - c` splits into a part along the axis of length at most
    `h/2 + eps` and a perpendicular part of length at most `r + eps` -/
theorem C16_cyl_contains (eps : Rat) (pts : List P) (c a : P) (r h : Rat)
    (hc : cylCheck eps pts c a r h = true) :
    ∀ p ∈ pts, ∃ (lam : Rat) (u : P), sub p c = add u (smul lam a) ∧ dot u a = 0 ∧
      lam * lam * dot a a ≤ (h / 2 + eps) * (h / 2 + eps) ∧ dot u u ≤ (r + eps) * (r + eps) := by
  simp only [cylCheck, Bool.and_eq_true, List.all_eq_true, decide_eq_true_eq] at hc
  obtain ⟨⟨⟨haa, _⟩, _⟩, hall⟩ := hc
  intro p hp
  obtain ⟨h1, h2⟩ := hall p hp
  obtain ⟨e1, e2, e3⟩ := cyl_split (sub p c) a _ (div_mul_cancel₀ (dot (sub p c) a) haa.ne').symm
  have hz : dot (sub p c) a / dot a a * (dot (sub p c) a / dot a a) * dot a a =
      dot (sub p c) a * dot (sub p c) a / dot a a := by field_simp
  refine ⟨_, _, e1, e2, ?_, ?_⟩
  · rw [hz, div_le_iff₀ haa]; exact h1
  · rw [e3, hz]; exact h2

/-- **why dropping zero-area simplices opens a hull** (the recorded finding `C16-hull-drops-zero-area-simplices`): a
    closed triangulation in which one side of an edge is split at a point of that edge is closed only through the
    zero-area triangle spanning the split (here `(0, 4, 1)`, vertex 4 on the segment from 0 to 1); with that triangle
    removed - what `convex_hull` does to the degenerate simplices qhull returns for collinear points - three directed
    edges are left without their reverse (`closedB`: every directed edge as often as its reverse) -/
theorem C16_dropping_degenerate_simplex_opens_witness :
    let withSliver : List TV.RevolveGrid.Face := [(0, 1, 2), (4, 0, 3), (1, 4, 3), (0, 4, 1), (1, 3, 2), (0, 2, 3)]
    let dropped : List TV.RevolveGrid.Face := [(0, 1, 2), (4, 0, 3), (1, 4, 3), (1, 3, 2), (0, 2, 3)]
    TV.RevolveGrid.closedB withSliver = true ∧ TV.RevolveGrid.closedB dropped = false := by
  decide +kernel

end TV.C16
