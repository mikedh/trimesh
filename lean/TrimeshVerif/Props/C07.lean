/-
C07 — Re-indexing operations never move triangles or misalign attached data.
Property theorems only; helper lemmas live in Proofs/Reindex.lean.
`α` is the whole per-vertex payload (position, colour, normal, uv, attributes), `β` the per-face payload:
a statement about `triangles` is therefore a statement about corner positions *and* every attached datum.
-/
import TrimeshVerif.Proofs.Reindex
import TrimeshVerif.Proofs.Grouping
import TrimeshVerif.Generated.C07Table
namespace TV.C07
open TV TV.Reindex

variable {α β : Type}

/-- face masking (boolean): surviving triangles are the masked triangles in their original order and
    per-face data is masked alike, so it stays attached to the same face -/
theorem C07_update_faces_bool (m : Mesh α β) (mask : List Bool) :
    triangles (updateFacesBool m mask) = maskFilter (triangles m) mask ∧
    (updateFacesBool m mask).FA = maskFilter m.FA mask ∧
    (updateFacesBool m mask).V = m.V ∧
    (m.F.length = m.FA.length → (updateFacesBool m mask).F.length = (updateFacesBool m mask).FA.length) ∧
    (InRange m → InRange (updateFacesBool m mask)) := by
  refine ⟨?_, rfl, rfl, ?_, ?_⟩
  · simp [triangles, updateFacesBool, maskFilter_map]
  · intro h; exact maskFilter_length_congr _ _ _ h
  · intro hr f hf
    exact hr f (mem_of_mem_maskFilter hf)

/-- face selection by integer indices (order and repetition as given) -/
theorem C07_update_faces_idx (m : Mesh α β) (idx : List Nat) (h : ∀ i ∈ idx, i < m.F.length)
    (hFA : m.F.length = m.FA.length) :
    triangles (updateFacesIdx m idx) = idx.filterMap ((triangles m)[·]?) ∧
    (updateFacesIdx m idx).FA = idx.filterMap (m.FA[·]?) ∧
    (updateFacesIdx m idx).F.length = idx.length ∧ (updateFacesIdx m idx).FA.length = idx.length ∧
    (InRange m → InRange (updateFacesIdx m idx)) := by
  refine ⟨?_, rfl, ?_, ?_, ?_⟩
  · simp only [triangles, updateFacesIdx, List.map_filterMap, List.getElem?_map]
  · exact length_filterMap_of_isSome _ _ (isSome_getElem?_of_lt h)
  · exact length_filterMap_of_isSome _ _ (isSome_getElem?_of_lt (fun i hi => hFA ▸ h i hi))
  · intro hr f hf
    exact hr f (mem_filterMap_getElem? hf)

/-- vertex masking that keeps every referenced vertex leaves every triangle unchanged, keeps the
    surviving vertex payloads in their original order, and faces index existing vertices
    (the proof does not use `hlen`) -/
theorem C07_update_vertices_bool (m : Mesh α β) (mask : List Bool) (hlen : mask.length = m.V.length)
    (hr : InRange m)
    (hkeep : ∀ f ∈ m.F, mask.getD f.1 false = true ∧ mask.getD f.2.1 false = true ∧ mask.getD f.2.2 false = true) :
    triangles (updateVerticesBool m mask) = triangles m ∧
    (updateVerticesBool m mask).V = maskFilter m.V mask ∧
    (updateVerticesBool m mask).FA = m.FA ∧
    InRange (updateVerticesBool m mask) := by
  have h := AllCorners.imp (maskFilter_inverse_getElem? m.V mask) hkeep
  exact ⟨map_corners_mapFace h, rfl, rfl,
    inRange_iff_allCorners.mpr (inRange_mapFace id (inRange_iff_allCorners.mp hr) (h.imp fun _ => congrArg _))⟩

/-- the guard above is needed: the code re-points a corner whose vertex was dropped at vertex 0 -/
theorem C07_update_vertices_dropped_witness :
    let m : Mesh Nat Unit := { V := [10, 11, 12, 13], F := [(1, 2, 3)], FA := [()] }
    triangles (updateVerticesBool m [true, false, true, true]) ≠ triangles m := by
  decide

/-- **vertex selection by integer indices** (`update_vertices(mask, inverse)` with an index mask, kept vertices in the
    order given - what `unmerge_vertices` and `merge_vertices` pass): if every kept index exists and the inverse sends
    every vertex some face uses to a position holding that vertex, every triangle is unchanged, and the new vertex
    array is the selection in mask order -/
theorem C07_update_vertices_int (m : Mesh α β) (keep inverse : List Nat)
    (hk : ∀ k ∈ keep, k < m.V.length)
    (hinv : ∀ f ∈ m.F, keep[inverse.getD f.1 0]? = some f.1 ∧ keep[inverse.getD f.2.1 0]? = some f.2.1 ∧
      keep[inverse.getD f.2.2 0]? = some f.2.2) :
    triangles (updateVerticesInv m keep inverse) = triangles m ∧
    (updateVerticesInv m keep inverse).V = keep.filterMap (m.V[·]?) ∧
    (updateVerticesInv m keep inverse).FA = m.FA := by
  refine ⟨map_corners_mapFace (AllCorners.imp (fun v (hv : keep[inverse.getD v 0]? = some v) => ?_) hinv), rfl, rfl⟩
  exact (getElem?_filterMap_of_isSome _ keep (isSome_getElem?_of_lt hk) _).trans (by rw [hv, Option.bind_some])

/-- the order of an index mask matters: `unmerge_vertices` selects the corners in face order and then numbers the
    faces `0, 1, 2, …`; the same selection taken as a set (in ascending order) moves the corners of a face whose
    indices are not ascending -/
theorem C07_index_mask_order_witness :
    let m : Mesh Nat Unit := { V := [10, 11, 12], F := [(2, 0, 1)], FA := [()] }
    triangles (updateVerticesInv m [2, 0, 1] [1, 2, 0]) = triangles m ∧
    triangles ({ m with V := [0, 1, 2].filterMap (m.V[·]?), F := [(0, 1, 2)] } : Mesh Nat Unit) ≠ triangles m := by
  decide

/-- dropping unreferenced vertices never moves a triangle -/
theorem C07_remove_unreferenced (m : Mesh α β) (hr : InRange m) :
    triangles (removeUnreferenced m) = triangles m ∧ InRange (removeUnreferenced m) ∧
    (removeUnreferenced m).V = maskFilter m.V (referencedMask m) ∧
    (removeUnreferenced m).FA = m.FA := by
  have h : AllCorners (fun v => (referencedMask m).getD v false = true) m.F :=
    (allCorners_referenced m hr).imp fun _ h => h.2
  obtain ⟨h1, h2, h3, h4⟩ := C07_update_vertices_bool m (referencedMask m) (referencedMask_length m) hr h
  exact ⟨h1, h4, h2, h3⟩

/-- un-merging keeps every triangle, makes faces index existing vertices, each exactly once -/
theorem C07_unmerge (m : Mesh α β) (hr : InRange m) :
    triangles (unmerge m) = triangles m ∧ InRange (unmerge m) ∧
    (unmerge m).V.length = 3 * m.F.length ∧ (unmerge m).FA = m.FA := by
  let c : Face → List (Option α) := fun f => [m.V[f.1]?, m.V[f.2.1]?, m.V[f.2.2]?]
  -- the three corners of a face in range exist, so `filterMap id` keeps them all, each in its place
  have hc : ∀ f ∈ m.F, ∀ x ∈ c f, (id x).isSome := fun f hf => by
    obtain ⟨r1, r2, r3⟩ := hr f hf
    simp [c, r1, r2, r3]
  have h3 : ∀ f ∈ m.F, ((c f).filterMap id).length = 3 := fun f hf => length_filterMap_of_isSome id _ (hc f hf)
  have hlen : (unmerge m).V.length = 3 * m.F.length := length_flatMap_const _ m.F h3
  refine ⟨?_, ?_, hlen, rfl⟩
  · apply List.ext_getElem (by simp [triangles, unmerge])
    intro i hi' hi
    rw [triangles, List.length_map] at hi
    have key := fun j hj => (getElem?_flatMap_const _ m.F h3 i hi j hj).trans
      (getElem?_filterMap_of_isSome id _ (hc _ (List.getElem_mem hi)) j)
    simp only [triangles, unmerge, List.getElem_map, List.getElem_range]
    -- `key j` has `([_, _, _][j]?).bind id` on the right, which computes to corner `j`
    exact Prod.ext (key 0 (by omega)) (Prod.ext (key 1 (by omega)) (key 2 (by omega)))
  · refine List.forall_mem_map.mpr fun i hi => ?_
    have := List.mem_range.mp hi
    rw [hlen]; simp only; omega

/-- merging vertices by any key: every corner of every triangle keeps its key (so positions agree
    within the merge tolerance that defines the key), the corner payload is the payload of the first
    referenced vertex carrying that key, faces stay in range, face order and face data are unchanged,
    and no two kept vertices share a key -/
theorem C07_merge {κ : Type} [DecidableEq κ] (le : κ → κ → Bool) (hle : IsOrder le) (key : α → κ)
    (m : Mesh α β) (hr : InRange m) :
    let m' := mergeVertices le key m
    InRange m' ∧ m'.F.length = m.F.length ∧ m'.FA = m.FA ∧
    (∀ i (h : i < m.F.length) (h' : i < m'.F.length),
      (m'.V[(m'.F[i]).1]?).map key = (m.V[(m.F[i]).1]?).map key ∧
      (m'.V[(m'.F[i]).2.1]?).map key = (m.V[(m.F[i]).2.1]?).map key ∧
      (m'.V[(m'.F[i]).2.2]?).map key = (m.V[(m.F[i]).2.2]?).map key) ∧
    (m'.V.map key).Nodup ∧
    (∀ a ∈ m'.V, ∃ v, m.V[v]? = some a ∧ (referencedMask m).getD v false = true ∧
        ∀ w, w < v → (referencedMask m).getD w false = true → (m.V[w]?).map key ≠ some (key a)) := by
  -- `mergeVertices` is the selection of `merge_select` with the referenced vertices as candidates
  rw [mergeVertices_eq]
  intro m'
  obtain ⟨h1, h2, h3⟩ := merge_select hle key m.V (fun v hv => (mem_refIdxOf.mp hv).1) (refIdxOf_sorted m)
  have hc := AllCorners.imp (fun v hv => h1 v (mem_refIdxOf.mpr hv)) (allCorners_referenced m hr)
  refine ⟨inRange_iff_allCorners.mpr (inRange_mapFace key (inRange_iff_allCorners.mp hr) hc), List.length_map _, rfl,
    ?_, h2, ?_⟩
  · intro i h h'
    rw [show m'.F[i] = mapFace _ m.F[i] from List.getElem_map _]
    exact hc _ (List.getElem_mem h)
  · intro a ha
    obtain ⟨v, hv, hva, hfirst⟩ := h3 a ha
    obtain ⟨hvl, hvr⟩ := mem_refIdxOf.mp hv
    exact ⟨v, hva, hvr, fun w hw hwr => hfirst w (mem_refIdxOf.mpr ⟨Nat.lt_trans hw hvl, hwr⟩) hw⟩

/-- stacking two meshes: triangles and face data are concatenated, faces stay in range -/
theorem C07_append (a b : Mesh α β) (ha : InRange a) (hb : InRange b) :
    triangles (append a b) = triangles a ++ triangles b ∧ (append a b).FA = a.FA ++ b.FA ∧
    InRange (append a b) :=
  append_spec a b ha hb

/-- concatenating any list of meshes concatenates their triangles in order -/
theorem C07_concatenate (ms : List (Mesh α β)) (h : ∀ m ∈ ms, InRange m) :
    triangles (concatenate ms) = (ms.map triangles).flatten ∧
    (concatenate ms).FA = (ms.map (·.FA)).flatten ∧ InRange (concatenate ms) := by
  simpa [concatenate, triangles] using
    foldl_append_spec ms { V := [], F := [], FA := [] } (by intro f hf; simp at hf) h

/-- a submesh holds exactly the selected triangles, in the selected order, with their face data -/
theorem C07_submesh (m : Mesh α β) (idx : List Nat) (hr : InRange m) (h : ∀ i ∈ idx, i < m.F.length)
    (hFA : m.F.length = m.FA.length) :
    triangles (submesh m idx) = idx.filterMap ((triangles m)[·]?) ∧
    (submesh m idx).FA = idx.filterMap (m.FA[·]?) ∧ InRange (submesh m idx) := by
  obtain ⟨u1, u2, _, _, u5⟩ := C07_update_faces_idx m idx h hFA
  obtain ⟨r1, r2, _, r4⟩ := C07_remove_unreferenced (updateFacesIdx m idx) (u5 hr)
  exact ⟨by rw [submesh, r1, u1], by rw [submesh, r4, u2], r2⟩

/-- splitting along any index lists (a partition or not) and concatenating the parts selects the triangles and the
    face data by the concatenated index lists -/
theorem split_concat_select (m : Mesh α β) (comps : List (List Nat)) (hr : InRange m)
    (hFA : m.F.length = m.FA.length) (hidx : ∀ i ∈ comps.flatten, i < m.F.length) :
    triangles (concatenate (split m comps)) = comps.flatten.filterMap ((triangles m)[·]?) ∧
    (concatenate (split m comps)).FA = comps.flatten.filterMap (m.FA[·]?) := by
  have hsub : ∀ c ∈ comps, _ := fun c h =>
    C07_submesh m c hr (fun i hi => hidx i (List.mem_flatten.mpr ⟨c, h, hi⟩)) hFA
  obtain ⟨c1, c2, _⟩ := C07_concatenate (split m comps) (List.forall_mem_map.mpr fun c hc => (hsub c hc).2.2)
  rw [c1, c2, List.filterMap_flatten, List.filterMap_flatten, split, List.map_map, List.map_map]
  exact ⟨congrArg _ (List.map_congr_left fun c h => (hsub c h).1),
    congrArg _ (List.map_congr_left fun c h => (hsub c h).2.1)⟩

/-- splitting along any partition of the faces and concatenating the parts reproduces the original
    triangle multiset (and the attached face data travels with its triangle) -/
theorem C07_split_concat (m : Mesh α β) (comps : List (List Nat)) (hr : InRange m)
    (hFA : m.F.length = m.FA.length)
    (hpart : comps.flatten.Perm (List.range m.F.length)) :
    ((triangles (concatenate (split m comps))).zip (concatenate (split m comps)).FA).Perm
      ((triangles m).zip m.FA) := by
  have hidx : ∀ i ∈ comps.flatten, i < m.F.length := fun i hi => List.mem_range.mp (hpart.mem_iff.mp hi)
  obtain ⟨c1, c2⟩ := split_concat_select m comps hr hFA hidx
  have hT : (triangles m).length = m.F.length := List.length_map _
  -- the zip of two selections is the selection from the zip, here by a permutation of all its positions
  rw [c1, c2, zip_filterMap_getElem? _ _ (hT.trans hFA) _ fun i hi => hT ▸ hidx i hi]
  have := hpart.filterMap (((triangles m).zip m.FA)[·]?)
  rwa [show m.F.length = ((triangles m).zip m.FA).length by simp [hT, ← hFA], filterMap_getElem?_range] at this

/-- the duplicate-face mask marks exactly the first occurrence of every unordered index triple -/
theorem C07_unique_faces (m : Mesh α β) (i : Nat) (hi : i < m.F.length) :
    (uniqueFacesMask m)[i]? = some (decide (∀ j, j < i → (m.F.map sort3)[j]? ≠ (m.F.map sort3)[i]?)) := by
  have hG := groupsOf_isGrouping TV.Grouping.lexLe_isOrder (m.F.map sort3)
  have hi' : i < (m.F.map sort3).length := by simpa using hi
  rw [uniqueFacesMask, getElem?_map_range _ hi, uniqueIdxInv_eq]
  congr 1
  rw [Bool.eq_iff_iff]
  simp only [List.contains_iff_mem, decide_eq_true_eq]
  simpa only [List.getElem?_map] using hG.mem_unique_iff hi'

/-! a test on a concrete mesh (vertices 0 and 3 are unreferenced) -/
example : let m : Mesh Nat Unit := { V := [10, 11, 12, 13, 14], F := [(1, 2, 4), (4, 2, 1)], FA := [(), ()] }
    triangles (removeUnreferenced m) = triangles m ∧ (removeUnreferenced m).V = [11, 12, 14] := by decide

/-! ### (G) what the masking methods of the source slice -/

/-- (G) **every array attached to faces / vertices is sliced alongside them in the current source**:
    `update_faces(mask)` indexes the faces, the cached face normals, every face attribute and the visual with the
    mask; `update_vertices(mask)` the vertices, the cached vertex normals, every vertex attribute and the visual, and
    re-points the faces through `inverse` - the payloads of `C07_update_faces_bool / _idx`, `C07_update_vertices_bool` -/
theorem C07_masking_slices_every_payload :
    TV.Generated.C07.updateFacesSlices = ["face_attributes", "face_normals", "faces", "visual"] ∧
    TV.Generated.C07.updateVerticesSlices =
      ["faces<-inverse", "vertex_attributes", "vertex_normals", "vertices", "visual"] := by decide

end TV.C07
