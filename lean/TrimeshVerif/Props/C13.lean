/-
C13 — voxel encodings, in three groups.  The run-length codecs are lossless and every operation on encoded data equals
the dense operation, for every sequence and every count maximum `m ≥ 1`, no bound on lengths (lemmas in
Proofs/RunLength.lean).  The index maps of the lazy views - flattened, reshaped, flipped, transposed - address the
entries they should (Proofs/Views.lean).  Grid addressing, `points_to_indices` / `indices_to_points`
(Proofs/Grid.lean); this group also defines `GridOp`, `parseOp`, `applyOp`, through which `C13_grid_of_source` reads
the operations traced from the source (Generated/C13Table.lean).  The `example`s (one after the view theorems, the others at the end) are tests by evaluation.
-/
import TrimeshVerif.Proofs.RunLength
import TrimeshVerif.Proofs.Views
import TrimeshVerif.Proofs.Grid
import TrimeshVerif.Generated.C13Table
namespace TV.C13
open TV.RunLength

/-- RLE round trip for every sequence and every count width (`hm` is not needed) -/
theorem C13_rle_roundtrip {α : Type} [DecidableEq α] (m : Nat) (hm : 1 ≤ m) (d : List α) :
    rleToDense (denseToRle m d) = d := by
  unfold denseToRle
  rw [splitLongRle_dense, runsOf_dense]

/-- every count written by the RLE encoder fits the count dtype -/
theorem C13_rle_counts_fit {α : Type} [DecidableEq α] (m : Nat) (hm : 1 ≤ m) (d : List α) :
    ∀ r ∈ denseToRle m d, r.2 ≤ m := by
  exact splitLongRle_fit m hm _

/-- BRLE round trip for every boolean sequence and every count width (`hm` is not needed; the code itself wants a
    non-empty sequence: it reads `dense_data[0]`) -/
theorem C13_brle_roundtrip (m : Nat) (hm : 1 ≤ m) (d : List Bool) :
    brleToDense (denseToBrle m d) = d := by
  have h := runsOf_brle d false
  unfold denseToBrle brleToDense
  dsimp only
  split
  · -- the count `0` written first makes the counts start at `true`
    rename_i hd
    rw [hd] at h
    rwa [brleFrom_cons, splitLongBrle_dense]
  · -- a head that is not `true` is `false` or missing
    rename_i hd
    rw [splitLongBrle_dense]
    rcases hx : d.head? with _ | _ | _
    · rwa [hx] at h
    · rwa [hx] at h
    · exact absurd hx hd

/-- every count written by the BRLE encoder fits the count dtype -/
theorem C13_brle_counts_fit (m : Nat) (hm : 1 ≤ m) (d : List Bool) :
    ∀ c ∈ denseToBrle m d, c ≤ m := by
  intro c hc
  unfold denseToBrle at hc
  dsimp only at hc
  split at hc
  · rcases List.mem_cons.1 hc with rfl | hc
    · exact Nat.zero_le _
    · exact splitLongBrle_fit m hm _ c hc
  · exact splitLongBrle_fit m hm _ c hc

/-- re-encoding an RLE (merge then split) preserves the decoded sequence, and fits the new width -/
theorem C13_rle_to_rle {α : Type} [DecidableEq α] (m : Nat) (hm : 1 ≤ m) (rs : List (α × Nat)) :
    rleToDense (rleToRle m rs) = rleToDense rs ∧ ∀ r ∈ rleToRle m rs, r.2 ≤ m := by
  unfold rleToRle
  exact ⟨by rw [splitLongRle_dense, mergeRle_dense], splitLongRle_fit m hm _⟩

/-- the same for a BRLE -/
theorem C13_brle_to_brle (m : Nat) (hm : 1 ≤ m) (ls : List Nat) :
    brleToDense (brleToBrle m ls) = brleToDense ls ∧ ∀ c ∈ brleToBrle m ls, c ≤ m := by
  unfold brleToBrle
  refine ⟨?_, splitLongBrle_fit m hm _⟩
  unfold brleToDense
  rw [splitLongBrle_dense]
  exact mergeBrle_dense ls

/-- BRLE to RLE preserves the decoded sequence (`hm` is not needed) -/
theorem C13_brle_to_rle (m : Nat) (hm : 1 ≤ m) (ls : List Nat) :
    rleToDense (brleToRle m ls) = brleToDense ls := by
  unfold brleToRle rleToRle
  dsimp only
  rw [splitLongRle_dense, mergeRle_dense, List.zip_map_left, List.range_eq_range']
  -- the values are the parities of the positions: such an RLE has the dense form of the counts
  refine (rle_zip_range' _ 0).trans ?_
  split
  · exact brleFrom_snoc_zero false ls
  · rfl

/-- RLE to BRLE succeeds on data with values in `{0, 1}` and preserves the decoded sequence, `1` read as `true` -/
theorem C13_rle_to_brle (rs : List (Int × Nat)) (h : ∀ r ∈ rs, r.1 = 0 ∨ r.1 = 1) :
    ∃ ls, rleToBrle rs = some ls ∧ brleToDense ls = (rleToDense rs).map (fun v => v != 0) := by
  have h2 : (rleToBrleAux [0] 0 rs).map _ = _ := rleToBrleAux_spec rs 0 [] h
  obtain ⟨res, h1, h2⟩ := Option.map_eq_some_iff.1 h2
  unfold rleToBrle
  rw [h1]
  refine ⟨_, rfl, ?_⟩
  unfold brleToDense
  dsimp only
  split
  · rw [brleFrom_snoc_zero, h2]; rfl
  · rw [h2]; rfl

/-- `rle_length` / `brle_length` are the lengths of the dense forms -/
theorem C13_lengths {α : Type} (rs : List (α × Nat)) (ls : List Nat) :
    rleLength rs = (rleToDense rs).length ∧ brleLength ls = (brleToDense ls).length := by
  constructor
  · rw [rleLength, length_rleToDense]
  · unfold brleLength brleToDense
    rw [brleFrom_length]

/-- logical not on the encoded form equals element-wise not of the dense form (`h` is not needed) -/
theorem C13_logical_not (ls : List Nat) (h : ls ≠ []) :
    brleToDense (brleLogicalNot ls) = (brleToDense ls).map (!·) := by
  unfold brleLogicalNot brleToDense
  rw [brleFrom_map_not]
  split
  · exact brleFrom_snoc_zero true ls
  · rename_i hc
    simp only [bne_iff_ne, ne_eq, Bool.or_eq_true, not_or, Decidable.not_not] at hc
    -- both end counts are `0`: the list is `[0]`, or it is `0 :: mid ++ [0]` and `mid` is left
    obtain ⟨t, rfl⟩ := List.head?_eq_some_iff.1 hc.1
    obtain ⟨_ | ⟨_, mid⟩, e⟩ := List.getLast?_eq_some_iff.1 hc.2
    · cases e; rfl
    · cases e
      exact (congrArg (brleToDenseFrom false) List.dropLast_concat).trans (brleFrom_snoc_zero false mid).symm

/-- reversal on the encoded form equals reversal of the dense form -/
theorem C13_reverse {α : Type} (rs : List (α × Nat)) (ls : List Nat) :
    rleToDense (rleReverse rs) = (rleToDense rs).reverse ∧
    brleToDense (brleReverse ls) = (brleToDense ls).reverse := by
  constructor
  · simp only [rleReverse, rleToDense_eq_flatMap, List.reverse_flatMap, Function.comp_def, List.reverse_replicate]
  · unfold brleReverse brleToDense
    split
    · rename_i hp
      have hpar : par ls.length = false := by simp [par, hp]
      rw [← brleFrom_snoc_zero false ls, brleFrom_reverse]
      simp [hpar]
    · rename_i hp
      have : ls.length % 2 = 1 := by omega
      have hpar : par ls.length = true := by simp [par, this]
      rw [brleFrom_reverse]
      simp [hpar]

/-- gather on the encoded form equals indexing the dense form (out of range ↦ error) -/
theorem C13_gather {α : Type} (rs : List (α × Nat)) (ls : List Nat) (idx : List Nat) :
    rleGather rs idx = idx.mapM (fun i => (rleToDense rs)[i]?) ∧
    brleGather ls idx = idx.mapM (fun i => (brleToDense ls)[i]?) := by
  constructor
  · unfold rleGather
    congr 1
    funext i
    exact rleAt_eq rs i
  · unfold brleGather brleToDense
    congr 1
    funext i
    exact brleAtFrom_eq false ls i

/-- masking the encoded form equals masking the dense form -/
theorem C13_mask {α : Type} (rs : List (α × Nat)) (ls : List Nat) (mask : List Bool) :
    rleMask rs mask = ((rleToDense rs).zip mask).filterMap (fun p => if p.2 then some p.1 else none) ∧
    brleMask ls mask = ((brleToDense ls).zip mask).filterMap (fun p => if p.2 then some p.1 else none) := by
  exact ⟨rleMask_eq rs mask, brleMaskFrom_eq false ls mask⟩

/-- sparse form = positions (and values) of the non-zero entries of the dense form, ascending -/
theorem C13_to_sparse (rs : List (Int × Nat)) (ls : List Nat) :
    rleToSparse rs = ((rleToDense rs).zipIdx.filter (fun p => p.1 != 0)).map (fun p => (p.2, p.1)) ∧
    brleToSparse ls = ((brleToDense ls).zipIdx.filter (fun p => p.1)).map (·.2) := by
  exact ⟨rleToSparseAux_eq rs 0, brleToSparseAux_eq ls false 0⟩

/-- `rle_strip`: padding the decoded stripped data back with the returned numbers of zeros reproduces the dense
    form, and the stripped data neither starts nor ends with a zero, so those numbers are the leading / trailing
    zeros of the dense form (whenever some entry is set) -/
theorem C13_strip_rle (rs : List (Int × Nat)) (h : ∃ v ∈ rleToDense rs, v ≠ 0) :
    let r := rleStrip rs
    List.replicate r.2.1 0 ++ rleToDense r.1 ++ List.replicate r.2.2 0 = rleToDense rs ∧
    (rleToDense r.1).head? ≠ some 0 ∧ (rleToDense r.1).getLast? ≠ some 0 := by
  -- a run is its own (value, count): `strip_dense` with `f := id`
  obtain ⟨_, _, v, w, -, -, hs, hv, hw, hh, hl⟩ :=
    strip_dense id 0 rleNotData rleNotData_true rleNotData_false rs (by rwa [List.map_id])
  rw [List.map_id, List.map_id] at hs
  rw [List.map_id] at hh hl
  rw [rleStrip_eq]
  exact ⟨hs, fun e => hv (Option.some.inj (hh.symm.trans e)), fun e => hw (Option.some.inj (hl.symm.trans e))⟩

/-- the same for `brle_strip`, with `false` for zero -/
theorem C13_strip_brle (ls : List Nat) (h : true ∈ brleToDense ls) :
    let r := brleStrip ls
    List.replicate r.2.1 false ++ brleToDense r.1 ++ List.replicate r.2.2 false = brleToDense ls ∧
    (brleToDense r.1).head? = some true ∧ (brleToDense r.1).getLast? = some true := by
  -- the counts tagged with their positions, on which `brle_strip` works, are an RLE of the same dense form (`hdense`)
  have hdense := rle_zip_range' ls 0
  rw [← List.range_eq_range'] at hdense
  obtain ⟨x, t, v, w, hcore, hqx, hs, hv, hw, hh, hl⟩ :=
    strip_dense (Prod.map par id) false brleNotData brleNotData_true brleNotData_false
      ((List.range ls.length).zip ls) ⟨true, by rw [hdense]; exact h, by decide⟩
  -- `stripped` is a `take` followed by a `drop`, so what is kept is a slice of the counts, tagged from its first
  -- position (`zip_range_slice`); its first element `x` is data and so stands at an odd position: the slice is a BRLE
  -- started at `true`
  have hcd : stripped brleNotData ((List.range ls.length).zip ls) = _ := zip_range_slice ls _ _
  rw [hcd] at hcore
  obtain ⟨_, _, hr, -, -⟩ := List.zip_eq_cons_iff.1 hcore
  have hpar := eq_true_of_ne_false (brleNotData_false x hqx).1
  rw [← (List.range'_eq_cons_iff.1 hr).1] at hpar
  -- (the last three rewrites: the tagged list is as long as `ls`)
  rw [hcd, rle_zip_range', hpar, List.length_zip, List.length_range, Nat.min_self] at hs hh hl
  rw [hdense] at hs
  rw [eq_true_of_ne_false hv] at hh
  rw [eq_true_of_ne_false hw] at hl
  -- `brle_strip` puts the count `0` in front of the slice
  rw [brleStrip_eq]
  dsimp only
  rw [brleToDense_zero_cons]
  exact ⟨hs, hh, hl⟩

/-- binvox body codec (uint8 counts) is lossless and every count byte fits -/
theorem C13_binvox_roundtrip (d : List Bool) :
    binvoxDecode (binvoxEncode d) = d ∧ ∀ b ∈ binvoxEncode d, b.2 ≤ 255 ∧ b.1 ≤ 1 := by
  unfold binvoxDecode binvoxEncode
  constructor
  · -- a value byte written for a Boolean reads back as that Boolean
    rw [List.map_map, List.map_congr_left (g := id) (by rintro ⟨_ | _, c⟩ _ <;> rfl), List.map_id]
    exact C13_rle_roundtrip 255 (by decide) d
  · rintro _ hb
    obtain ⟨r, hr, rfl⟩ := List.mem_map.mp hb
    exact ⟨C13_rle_counts_fit 255 (by decide) d r hr, by dsimp only; split <;> decide⟩


/-! ### lazy views: the index maps of FlattenedEncoding / ShapedEncoding / FlippedEncoding / TransposedEncoding -/

section views
open TV.Views

/-- **`ravel_multi_index` and `unravel_index` are mutually inverse** on every shape (any rank, any extents):
    the flattened and reshaped views address the same entries as the array they wrap -/
theorem C13_ravel_unravel (shape : List Nat) :
    (∀ idx, inRange shape idx = true →
        ravel shape idx < size shape ∧ unravel shape (ravel shape idx) = idx) ∧
    (∀ k, k < size shape → inRange shape (unravel shape k) = true ∧ ravel shape (unravel shape k) = k) :=
  ⟨unravel_ravel shape, ravel_unravel shape⟩

/-- **reshaped / flattened view**: reading the view at an in-range multi-index reads the entry at the same
    C-order position of the base (`gather_nd`, `get_value` through `_to_base_indices`) -/
theorem C13_reshape_view {α : Type} (d : α) (oldShape newShape : List Nat) (data : List α) (idx : List Nat)
    (hs : size oldShape = size newShape) (hr : inRange newShape idx = true) :
    entry d oldShape data (reshapeIdx oldShape newShape idx) = entry d newShape data idx ∧
    inRange oldShape (reshapeIdx oldShape newShape idx) = true := by
  unfold entry reshapeIdx
  have hk : ravel newShape idx < size oldShape := by rw [hs]; exact (unravel_ravel newShape idx hr).1
  have := ravel_unravel oldShape _ hk
  exact ⟨by rw [this.2], this.1⟩

/-- **flipped view**: `_to_base_indices` is an involution that keeps indices in range (so it is also
    `_from_base_indices`), and mapping the sparse indices of the base through it gives exactly the positions
    where the flipped array is non-zero -/
theorem C13_flip_view (shape axes : List Nat) (data : List Int) (idx : List Nat) :
    (inRange shape idx = true → inRange shape (flipIdx shape axes idx) = true ∧
        flipIdx shape axes (flipIdx shape axes idx) = idx) ∧
    (idx ∈ (sparseIdx shape data).map (flipIdx shape axes) ↔
        inRange shape idx = true ∧ entry 0 shape data (flipIdx shape axes idx) ≠ 0) := by
  refine ⟨fun h => ⟨flipIdx_inRange shape axes idx h, flipIdx_involutive shape axes idx h⟩, ?_⟩
  simp only [List.mem_map, mem_sparseIdx]
  constructor
  · rintro ⟨j, ⟨hr, hne⟩, rfl⟩
    exact ⟨flipIdx_inRange shape axes j hr, by rwa [flipIdx_involutive shape axes j hr]⟩
  · rintro ⟨hr, hne⟩
    exact ⟨_, ⟨flipIdx_inRange shape axes idx hr, hne⟩, flipIdx_involutive shape axes idx hr⟩

/-- in one dimension the flipped array is the reversed list -/
theorem C13_flip_1d (data : List Int) (i : Nat) (hi : i < data.length) :
    data.reverse.getD i 0 = entry 0 [data.length] data (flipIdx [data.length] [0] [i]) := by
  -- the flipped index is `[data.length - 1 - i]`, its C-order position that number times `size [] = 1`
  change _ = data.getD ((data.length - 1 - i) * 1) 0
  rw [Nat.mul_one, List.getD_eq_getElem?_getD, List.getD_eq_getElem?_getD, List.getElem?_reverse hi]

/-- **transposed view, partial**: `np.transpose(dense, perm)[idx]` reads the base at `j` with
    `j[perm[d]] = idx[d]` (`transposeBase`); the code's `np.take(indices, perm)` is that index when the
    permutation is its own inverse - every 2-D transpose and every swap of two axes -/
theorem C13_transpose_view_partial (perm idx : List Nat) (hn : perm.Nodup) (hr : ∀ p ∈ perm, p < perm.length)
    (hl : idx.length = perm.length) :
    takeIdx perm (transposeBase perm idx) = idx ∧
    ((∀ d, d < perm.length → perm.getD (perm.getD d 0) 0 = d) → takeIdx perm idx = transposeBase perm idx) := by
  have hlt : ∀ d, d < perm.length → perm.getD d 0 < perm.length := fun d hd =>
    hr _ (getD_eq_getElem perm d hd ▸ List.getElem_mem hd)
  constructor
  · refine ext_getD (by simp [takeIdx, hl]) fun d hdi => ?_
    have hd : d < perm.length := hl ▸ hdi
    unfold transposeBase
    rw [takeIdx_getD _ _ _ hd, takeIdx_getD _ _ _ (by simpa [invPerm] using hlt d hd),
      invPerm_getD perm hn d hd (hlt d hd)]
  · intro hinv
    unfold transposeBase
    congr 1
    refine ext_getD (by simp [invPerm]) fun d hdi => ?_
    have hd : d < perm.length := by simpa [invPerm] using hdi
    -- perm[d] is the position of d
    have := invPerm_getD perm hn (perm.getD d 0) (hlt d hd) (by rw [hinv d hd]; exact hd)
    rw [hinv d hd] at this
    exact this.symm

/-- the full statement fails for the code as it is: for a cyclic permutation of three axes the code's index
    map reads a different entry than `np.transpose` (known finding: transposed `gather_nd` / `sparse_indices`
    for 3-cycles) -/
theorem C13_transpose_view_cycle_witness :
    takeIdx [1, 2, 0] [0, 1, 2] = [1, 2, 0] ∧ transposeBase [1, 2, 0] [0, 1, 2] = [2, 0, 1] := by decide

/-- the index maps evaluated on a 2 x 3 x 4 shape: the last entry has C-order position 23, and flipping axes 0 and 2
    sends it to `[0, 2, 0]` -/
example : inRange [2, 3, 4] [1, 2, 3] = true ∧ ravel [2, 3, 4] [1, 2, 3] = 23 ∧ unravel [2, 3, 4] 23 = [1, 2, 3] ∧
    flipIdx [2, 3, 4] [0, 2] [1, 2, 3] = [0, 2, 0] := by decide

end views


/-! ### grid addressing: `points_to_indices` / `indices_to_points` -/

section grid
open TV.Grid

/-- **cell centres and indices are inverse**: `points_to_indices(indices_to_points(i)) = i` for every index, pitch
    (non-zero) and origin; and every point closer than half a pitch to a cell centre is addressed as that cell -/
theorem C13_grid (pitch origin : Rat) (i : Int) :
    (pitch ≠ 0 → pointToIndex pitch origin (indexToPoint pitch origin i) = i) ∧
    (0 < pitch → ∀ p, indexToPoint pitch origin i - pitch / 2 < p → p < indexToPoint pitch origin i + pitch / 2 →
        pointToIndex pitch origin p = i) := by
  constructor
  · intro hp
    unfold pointToIndex indexToPoint
    rw [add_sub_cancel_right, mul_div_cancel_right₀ _ hp]
    exact roundHE_int i
  · intro hp p h1 h2
    unfold pointToIndex
    unfold indexToPoint at h1 h2
    apply roundHE_of_near
    · rw [lt_div_iff₀ hp]; linarith
    · rw [div_lt_iff₀ hp]; linarith

/-- a point exactly between two cells goes to the even one (`np.round`) -/
theorem C13_grid_ties (i : Int) : roundHE ((i : Rat) + 1 / 2) = if i % 2 = 0 then i else i + 1 := by
  have e : (i : Rat) + 1 / 2 + 1 / 2 = ((i + 1 : Int) : Rat) := by push_cast; ring
  unfold roundHE
  simp only [e, Rat.floor_intCast, true_and]
  by_cases hp : i % 2 = 0
  · rw [if_pos hp, if_pos (by omega)]; omega
  · rw [if_neg hp, if_neg (by omega)]

/-- the in-place operations of the source on a coordinate (`origin` and `pitch` both given) -/
inductive GridOp | subOrigin | addOrigin | divPitch | mulPitch
  deriving DecidableEq

def parseOp (op : String) : Option GridOp :=
  if op = "-= origin | origin is not None" then some .subOrigin
  else if op = "+= origin | origin is not None" then some .addOrigin
  else if op = "/= pitch | pitch is not None" then some .divPitch
  else if op = "*= pitch | pitch is not None" then some .mulPitch
  else none

def applyOp (pitch origin : Rat) (x : Rat) : GridOp → Rat
  | .subOrigin => x - origin
  | .addOrigin => x + origin
  | .divPitch => x / pitch
  | .mulPitch => x * pitch

/-- **(G) the grid arithmetic of the source is the model's**: the in-place operations `points_to_indices` and
    `indices_to_points` apply, read from `voxel/ops.py` by `ast` on every run (operation, operand, guard, order), are
    "subtract the origin, divide by the pitch, `np.round`" and "multiply by the pitch, add the origin" - the
    functions `C13_grid` is about -/
theorem C13_grid_of_source :
    TV.Generated.C13.pointsToIndicesOps.map parseOp = [some .subOrigin, some .divPitch] ∧
    TV.Generated.C13.pointsToIndicesFinal = "np.round(points).astype(int)" ∧
    TV.Generated.C13.indicesToPointsOps.map parseOp = [some .mulPitch, some .addOrigin] ∧
    (∀ pitch origin p : Rat,
      roundHE ([GridOp.subOrigin, .divPitch].foldl (applyOp pitch origin) p) = pointToIndex pitch origin p) ∧
    (∀ (pitch origin : Rat) (i : Int),
      [GridOp.mulPitch, .addOrigin].foldl (applyOp pitch origin) (i : Rat) = indexToPoint pitch origin i) := by
  refine ⟨by decide, by decide, by decide, fun _ _ _ => rfl, fun _ _ _ => rfl⟩

end grid

/-! tests: concrete instances, by evaluation -/
example : denseToRle 2 [5, 5, 5, 5, 5, 3] = [(5, 2), (5, 2), (5, 1), (3, 1)] := by decide
example : denseToBrle 2 [true, true, true, false] = [0, 2, 0, 1, 1] := by decide
example : rleStrip [(0, 3), (4, 2), (0, 1)] = ([(4, 2)], 3, 1) := by decide
example : brleStrip [2, 3, 1] = ([0, 3], 2, 1) := by decide

end TV.C13
