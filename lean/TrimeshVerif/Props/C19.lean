/-
C19 — Rotation and transform representations convert consistently.
Property theorems, the three lemmas that tie a trace to its hand-written reference form in
`Proofs/Rotation.lean` (`rot_eq_rotM`, `quatM_eq_qM`, `quatM_of_unit`) and the symmetry equations between the traced
Euler matrices (`euler_<axes>_eq`, `euler_<axes>_eq_cyc`).  Every definition in `TV.Generated.C19` is traced from the real functions of
`trimesh/transformations.py` on every run; angles are (cos, sin) pairs with `c² + s² = 1` as a hypothesis,
so the theorems hold for all angles (0, ±π/2, ±π and gimbal configurations included), all unit axes,
all non-zero quaternions and all 24 Euler conventions, over any field (`2 ≠ 0` for quaternion products).
-/
import TrimeshVerif.Proofs.Rotation
import TrimeshVerif.Generated.C19Trace
import TrimeshVerif.Generated.C19Inverse
namespace TV.C19
open TV.Mat3 TV.Generated.C19

variable {K : Type} [Field K]

/-! ### axis-angle -/

/-- the traced `rotation_matrix` is the Rodrigues form -/
theorem rot_eq_rotM (c s u1 u2 u3 : K) : rot c s u1 u2 u3 = rotM c s u1 u2 u3 := by
  apply M3.ext' <;> simp only [rot, rotM] <;> ring

/-- `rotation_matrix(angle, u)` is a proper rotation for every angle and unit axis -/
theorem C19_rotation_matrix_is_rotation (c s u1 u2 u3 : K) (hcs : c ^ 2 + s ^ 2 = 1)
    (hu : u1 ^ 2 + u2 ^ 2 + u3 ^ 2 = 1) : (rot c s u1 u2 u3).IsRotation := by
  rw [rot_eq_rotM]; exact rotM_isRotation c s u1 u2 u3 hcs hu

/-- it leaves its axis fixed (for every `(c, s)`: `hcs` is not needed) -/
theorem C19_rotation_fixes_axis (c s u1 u2 u3 : K) (hcs : c ^ 2 + s ^ 2 = 1)
    (hu : u1 ^ 2 + u2 ^ 2 + u3 ^ 2 = 1) : (rot c s u1 u2 u3).apply (u1, u2, u3) = (u1, u2, u3) := by
  rw [rot_eq_rotM]; exact rotM_apply_axis c s u1 u2 u3 hu

/-- rotating about a point leaves that point fixed: `R p + t = p` -/
theorem C19_rotation_about_point_fixes_it (c s u1 u2 u3 p1 p2 p3 : K) :
    let Rp := (rot c s u1 u2 u3).apply (p1, p2, p3)
    (Rp.1 + rotPointT0 c s u1 u2 u3 p1 p2 p3, Rp.2.1 + rotPointT1 c s u1 u2 u3 p1 p2 p3,
     Rp.2.2 + rotPointT2 c s u1 u2 u3 p1 p2 p3) = (p1, p2, p3) := by
  intro Rp
  simp only [Rp, M3.apply, rot, rotPointT0, rotPointT1, rotPointT2, Prod.mk.injEq]
  refine ⟨?_, ?_, ?_⟩ <;> ring

/-! ### quaternions (`t` is the square of the normalisation factor: `t · |q|² = 2`) -/

theorem quatM_eq_qM (t w x y z : K) : quatM t w x y z = qM t w x y z := by
  apply M3.ext' <;> simp only [quatM, qM] <;> ring

/-- `quaternion_matrix(q)` is a proper rotation for every non-zero quaternion -/
theorem C19_quaternion_matrix_is_rotation (t w x y z : K) (ht : t * (w ^ 2 + x ^ 2 + y ^ 2 + z ^ 2) = 2) :
    (quatM t w x y z).IsRotation := by
  rw [quatM_eq_qM]; exact qM_isRotation t w x y z ht

/-- `q` and `-q` give the same matrix -/
theorem C19_quaternion_sign (t w x y z : K) : quatM t (-w) (-x) (-y) (-z) = quatM t w x y z := by
  rw [quatM_eq_qM, quatM_eq_qM]; exact qM_neg t w x y z

/-- `quaternion_multiply` is multiplicative on matrices: `M(q1 * q0) = M(q1) · M(q0)`
    (in characteristic 2 the normalisation `t · |q|² = 2` degenerates — counterexample over `ZMod 2`:
    `t1 = 1, q1 = (1,1,0,0), t0 = 0, q0 = 0` — hence the hypothesis `2 ≠ 0`, true of ℝ and ℚ) -/
theorem C19_quaternion_multiply (h2 : (2 : K) ≠ 0) (t1 w1 x1 y1 z1 t0 w0 x0 y0 z0 : K)
    (h1 : t1 * (w1 ^ 2 + x1 ^ 2 + y1 ^ 2 + z1 ^ 2) = 2) (h0 : t0 * (w0 ^ 2 + x0 ^ 2 + y0 ^ 2 + z0 ^ 2) = 2) :
    quatM (t1 * t0 / 2) (quatMul0 w1 x1 y1 z1 w0 x0 y0 z0) (quatMul1 w1 x1 y1 z1 w0 x0 y0 z0)
        (quatMul2 w1 x1 y1 z1 w0 x0 y0 z0) (quatMul3 w1 x1 y1 z1 w0 x0 y0 z0)
      = quatM t1 w1 x1 y1 z1 * quatM t0 w0 x0 y0 z0 := by
  rw [quatM_eq_qM, quatM_eq_qM, quatM_eq_qM, ← qM_mul h2 t1 w1 x1 y1 z1 t0 w0 x0 y0 z0 h1 h0]
  -- the traced product is the Hamilton product, component by component
  congr 1 <;> simp only [quatMul0, quatMul1, quatMul2, quatMul3, Q.mul] <;> ring

/-- the quaternion `(cos(a/2), u·sin(a/2))` of an axis-angle pair gives `rotation_matrix(a, u)`
    (half-angle symbols `ch, sh`; `cos a = ch² − sh²`, `sin a = 2·sh·ch`) -/
theorem C19_axis_angle_quaternion (ch sh u1 u2 u3 : K) (hcs : ch ^ 2 + sh ^ 2 = 1)
    (hu : u1 ^ 2 + u2 ^ 2 + u3 ^ 2 = 1) :
    quatM 2 ch (u1 * sh) (u2 * sh) (u3 * sh) = rot (ch ^ 2 - sh ^ 2) (2 * sh * ch) u1 u2 u3 := by
  rw [rot_eq_rotM, quatM_eq_qM]; exact qM_axis_angle ch sh u1 u2 u3 hcs hu

/-! ### the 24 Euler conventions: `euler_matrix` is the product of the three elementary rotations in the
order and frame the convention's name says (static frame `s`: later rotations multiply on the left;
rotating frame `r`: on the right) -/

/-! The traced matrix of a convention is that of the next convention of its frame (x → y → z → x in its name) with the
axes relabelled back (`M3.cyc`; `euler_matrix` picks its indices from `_NEXT_AXIS`), entry for entry as written.  So
in each family of per-convention theorems below only conventions that start with `x` are proved from the traces - in
a frame one for each parity, with and without a repeated axis - and the others of that frame are read off through
`M3.cyc`. -/

theorem euler_rxyx_eq_cyc (c_i s_i c_j s_j c_k s_k : K) :
    euler_rxyx c_i s_i c_j s_j c_k s_k = (euler_ryzy c_i s_i c_j s_j c_k s_k).cyc := rfl

theorem euler_rxyz_eq_cyc (c_i s_i c_j s_j c_k s_k : K) :
    euler_rxyz c_i s_i c_j s_j c_k s_k = (euler_ryzx c_i s_i c_j s_j c_k s_k).cyc := rfl

theorem euler_rxzx_eq_cyc (c_i s_i c_j s_j c_k s_k : K) :
    euler_rxzx c_i s_i c_j s_j c_k s_k = (euler_ryxy c_i s_i c_j s_j c_k s_k).cyc := rfl

theorem euler_rxzy_eq_cyc (c_i s_i c_j s_j c_k s_k : K) :
    euler_rxzy c_i s_i c_j s_j c_k s_k = (euler_ryxz c_i s_i c_j s_j c_k s_k).cyc := rfl

theorem euler_ryxy_eq_cyc (c_i s_i c_j s_j c_k s_k : K) :
    euler_ryxy c_i s_i c_j s_j c_k s_k = (euler_rzyz c_i s_i c_j s_j c_k s_k).cyc := rfl

theorem euler_ryxz_eq_cyc (c_i s_i c_j s_j c_k s_k : K) :
    euler_ryxz c_i s_i c_j s_j c_k s_k = (euler_rzyx c_i s_i c_j s_j c_k s_k).cyc := rfl

theorem euler_ryzx_eq_cyc (c_i s_i c_j s_j c_k s_k : K) :
    euler_ryzx c_i s_i c_j s_j c_k s_k = (euler_rzxy c_i s_i c_j s_j c_k s_k).cyc := rfl

theorem euler_ryzy_eq_cyc (c_i s_i c_j s_j c_k s_k : K) :
    euler_ryzy c_i s_i c_j s_j c_k s_k = (euler_rzxz c_i s_i c_j s_j c_k s_k).cyc := rfl

theorem euler_sxyx_eq_cyc (c_i s_i c_j s_j c_k s_k : K) :
    euler_sxyx c_i s_i c_j s_j c_k s_k = (euler_syzy c_i s_i c_j s_j c_k s_k).cyc := rfl

theorem euler_sxyz_eq_cyc (c_i s_i c_j s_j c_k s_k : K) :
    euler_sxyz c_i s_i c_j s_j c_k s_k = (euler_syzx c_i s_i c_j s_j c_k s_k).cyc := rfl

theorem euler_sxzx_eq_cyc (c_i s_i c_j s_j c_k s_k : K) :
    euler_sxzx c_i s_i c_j s_j c_k s_k = (euler_syxy c_i s_i c_j s_j c_k s_k).cyc := rfl

theorem euler_sxzy_eq_cyc (c_i s_i c_j s_j c_k s_k : K) :
    euler_sxzy c_i s_i c_j s_j c_k s_k = (euler_syxz c_i s_i c_j s_j c_k s_k).cyc := rfl

theorem euler_syxy_eq_cyc (c_i s_i c_j s_j c_k s_k : K) :
    euler_syxy c_i s_i c_j s_j c_k s_k = (euler_szyz c_i s_i c_j s_j c_k s_k).cyc := rfl

theorem euler_syxz_eq_cyc (c_i s_i c_j s_j c_k s_k : K) :
    euler_syxz c_i s_i c_j s_j c_k s_k = (euler_szyx c_i s_i c_j s_j c_k s_k).cyc := rfl

theorem euler_syzx_eq_cyc (c_i s_i c_j s_j c_k s_k : K) :
    euler_syzx c_i s_i c_j s_j c_k s_k = (euler_szxy c_i s_i c_j s_j c_k s_k).cyc := rfl

theorem euler_syzy_eq_cyc (c_i s_i c_j s_j c_k s_k : K) :
    euler_syzy c_i s_i c_j s_j c_k s_k = (euler_szxz c_i s_i c_j s_j c_k s_k).cyc := rfl

theorem C19_euler_rxyx (c_i s_i c_j s_j c_k s_k : K) :
    euler_rxyx c_i s_i c_j s_j c_k s_k = Rx c_i s_i * (Ry c_j s_j) * (Rx c_k s_k) := by
  rw [M3.mul_Rx, M3.mul_Ry]
  apply M3.ext' <;> simp only [euler_rxyx, Rx] <;> ring

theorem C19_euler_rxyz (c_i s_i c_j s_j c_k s_k : K) :
    euler_rxyz c_i s_i c_j s_j c_k s_k = Rx c_i s_i * (Ry c_j s_j) * (Rz c_k s_k) := by
  rw [M3.mul_Rz, M3.mul_Ry]
  apply M3.ext' <;> simp only [euler_rxyz, Rx] <;> ring

theorem C19_euler_rxzx (c_i s_i c_j s_j c_k s_k : K) :
    euler_rxzx c_i s_i c_j s_j c_k s_k = Rx c_i s_i * (Rz c_j s_j) * (Rx c_k s_k) := by
  rw [M3.mul_Rx, M3.mul_Rz]
  apply M3.ext' <;> simp only [euler_rxzx, Rx] <;> ring

theorem C19_euler_rxzy (c_i s_i c_j s_j c_k s_k : K) :
    euler_rxzy c_i s_i c_j s_j c_k s_k = Rx c_i s_i * (Rz c_j s_j) * (Ry c_k s_k) := by
  rw [M3.mul_Ry, M3.mul_Rz]
  apply M3.ext' <;> simp only [euler_rxzy, Rx] <;> ring

theorem C19_euler_ryxy (c_i s_i c_j s_j c_k s_k : K) :
    euler_ryxy c_i s_i c_j s_j c_k s_k = Ry c_i s_i * (Rx c_j s_j) * (Ry c_k s_k) := by
  apply M3.cyc_injective
  rw [← euler_rxzx_eq_cyc, M3.cyc_mul, M3.cyc_mul]
  exact C19_euler_rxzx c_i s_i c_j s_j c_k s_k

theorem C19_euler_ryxz (c_i s_i c_j s_j c_k s_k : K) :
    euler_ryxz c_i s_i c_j s_j c_k s_k = Ry c_i s_i * (Rx c_j s_j) * (Rz c_k s_k) := by
  apply M3.cyc_injective
  rw [← euler_rxzy_eq_cyc, M3.cyc_mul, M3.cyc_mul]
  exact C19_euler_rxzy c_i s_i c_j s_j c_k s_k

theorem C19_euler_ryzx (c_i s_i c_j s_j c_k s_k : K) :
    euler_ryzx c_i s_i c_j s_j c_k s_k = Ry c_i s_i * (Rz c_j s_j) * (Rx c_k s_k) := by
  apply M3.cyc_injective
  rw [← euler_rxyz_eq_cyc, M3.cyc_mul, M3.cyc_mul]
  exact C19_euler_rxyz c_i s_i c_j s_j c_k s_k

theorem C19_euler_ryzy (c_i s_i c_j s_j c_k s_k : K) :
    euler_ryzy c_i s_i c_j s_j c_k s_k = Ry c_i s_i * (Rz c_j s_j) * (Ry c_k s_k) := by
  apply M3.cyc_injective
  rw [← euler_rxyx_eq_cyc, M3.cyc_mul, M3.cyc_mul]
  exact C19_euler_rxyx c_i s_i c_j s_j c_k s_k

theorem C19_euler_rzxy (c_i s_i c_j s_j c_k s_k : K) :
    euler_rzxy c_i s_i c_j s_j c_k s_k = Rz c_i s_i * (Rx c_j s_j) * (Ry c_k s_k) := by
  apply M3.cyc_injective
  rw [← euler_ryzx_eq_cyc, M3.cyc_mul, M3.cyc_mul]
  exact C19_euler_ryzx c_i s_i c_j s_j c_k s_k

theorem C19_euler_rzxz (c_i s_i c_j s_j c_k s_k : K) :
    euler_rzxz c_i s_i c_j s_j c_k s_k = Rz c_i s_i * (Rx c_j s_j) * (Rz c_k s_k) := by
  apply M3.cyc_injective
  rw [← euler_ryzy_eq_cyc, M3.cyc_mul, M3.cyc_mul]
  exact C19_euler_ryzy c_i s_i c_j s_j c_k s_k

theorem C19_euler_rzyx (c_i s_i c_j s_j c_k s_k : K) :
    euler_rzyx c_i s_i c_j s_j c_k s_k = Rz c_i s_i * (Ry c_j s_j) * (Rx c_k s_k) := by
  apply M3.cyc_injective
  rw [← euler_ryxz_eq_cyc, M3.cyc_mul, M3.cyc_mul]
  exact C19_euler_ryxz c_i s_i c_j s_j c_k s_k

theorem C19_euler_rzyz (c_i s_i c_j s_j c_k s_k : K) :
    euler_rzyz c_i s_i c_j s_j c_k s_k = Rz c_i s_i * (Ry c_j s_j) * (Rz c_k s_k) := by
  apply M3.cyc_injective
  rw [← euler_ryxy_eq_cyc, M3.cyc_mul, M3.cyc_mul]
  exact C19_euler_ryxy c_i s_i c_j s_j c_k s_k

theorem C19_euler_sxyx (c_i s_i c_j s_j c_k s_k : K) :
    euler_sxyx c_i s_i c_j s_j c_k s_k = Rx c_k s_k * (Ry c_j s_j) * (Rx c_i s_i) := by
  rw [M3.mul_Rx, M3.mul_Ry]
  apply M3.ext' <;> simp only [euler_sxyx, Rx] <;> ring

theorem C19_euler_sxyz (c_i s_i c_j s_j c_k s_k : K) :
    euler_sxyz c_i s_i c_j s_j c_k s_k = Rz c_k s_k * (Ry c_j s_j) * (Rx c_i s_i) := by
  rw [M3.mul_Rx, M3.mul_Ry]
  apply M3.ext' <;> simp only [euler_sxyz, Rz] <;> ring

theorem C19_euler_sxzx (c_i s_i c_j s_j c_k s_k : K) :
    euler_sxzx c_i s_i c_j s_j c_k s_k = Rx c_k s_k * (Rz c_j s_j) * (Rx c_i s_i) := by
  rw [M3.mul_Rx, M3.mul_Rz]
  apply M3.ext' <;> simp only [euler_sxzx, Rx] <;> ring

theorem C19_euler_sxzy (c_i s_i c_j s_j c_k s_k : K) :
    euler_sxzy c_i s_i c_j s_j c_k s_k = Ry c_k s_k * (Rz c_j s_j) * (Rx c_i s_i) := by
  rw [M3.mul_Rx, M3.mul_Rz]
  apply M3.ext' <;> simp only [euler_sxzy, Ry] <;> ring

theorem C19_euler_syxy (c_i s_i c_j s_j c_k s_k : K) :
    euler_syxy c_i s_i c_j s_j c_k s_k = Ry c_k s_k * (Rx c_j s_j) * (Ry c_i s_i) := by
  apply M3.cyc_injective
  rw [← euler_sxzx_eq_cyc, M3.cyc_mul, M3.cyc_mul]
  exact C19_euler_sxzx c_i s_i c_j s_j c_k s_k

theorem C19_euler_syxz (c_i s_i c_j s_j c_k s_k : K) :
    euler_syxz c_i s_i c_j s_j c_k s_k = Rz c_k s_k * (Rx c_j s_j) * (Ry c_i s_i) := by
  apply M3.cyc_injective
  rw [← euler_sxzy_eq_cyc, M3.cyc_mul, M3.cyc_mul]
  exact C19_euler_sxzy c_i s_i c_j s_j c_k s_k

theorem C19_euler_syzx (c_i s_i c_j s_j c_k s_k : K) :
    euler_syzx c_i s_i c_j s_j c_k s_k = Rx c_k s_k * (Rz c_j s_j) * (Ry c_i s_i) := by
  apply M3.cyc_injective
  rw [← euler_sxyz_eq_cyc, M3.cyc_mul, M3.cyc_mul]
  exact C19_euler_sxyz c_i s_i c_j s_j c_k s_k

theorem C19_euler_syzy (c_i s_i c_j s_j c_k s_k : K) :
    euler_syzy c_i s_i c_j s_j c_k s_k = Ry c_k s_k * (Rz c_j s_j) * (Ry c_i s_i) := by
  apply M3.cyc_injective
  rw [← euler_sxyx_eq_cyc, M3.cyc_mul, M3.cyc_mul]
  exact C19_euler_sxyx c_i s_i c_j s_j c_k s_k

theorem C19_euler_szxy (c_i s_i c_j s_j c_k s_k : K) :
    euler_szxy c_i s_i c_j s_j c_k s_k = Ry c_k s_k * (Rx c_j s_j) * (Rz c_i s_i) := by
  apply M3.cyc_injective
  rw [← euler_syzx_eq_cyc, M3.cyc_mul, M3.cyc_mul]
  exact C19_euler_syzx c_i s_i c_j s_j c_k s_k

theorem C19_euler_szxz (c_i s_i c_j s_j c_k s_k : K) :
    euler_szxz c_i s_i c_j s_j c_k s_k = Rz c_k s_k * (Rx c_j s_j) * (Rz c_i s_i) := by
  apply M3.cyc_injective
  rw [← euler_syzy_eq_cyc, M3.cyc_mul, M3.cyc_mul]
  exact C19_euler_syzy c_i s_i c_j s_j c_k s_k

theorem C19_euler_szyx (c_i s_i c_j s_j c_k s_k : K) :
    euler_szyx c_i s_i c_j s_j c_k s_k = Rx c_k s_k * (Ry c_j s_j) * (Rz c_i s_i) := by
  apply M3.cyc_injective
  rw [← euler_syxz_eq_cyc, M3.cyc_mul, M3.cyc_mul]
  exact C19_euler_syxz c_i s_i c_j s_j c_k s_k

theorem C19_euler_szyz (c_i s_i c_j s_j c_k s_k : K) :
    euler_szyz c_i s_i c_j s_j c_k s_k = Rz c_k s_k * (Ry c_j s_j) * (Rz c_i s_i) := by
  apply M3.cyc_injective
  rw [← euler_syxy_eq_cyc, M3.cyc_mul, M3.cyc_mul]
  exact C19_euler_syxy c_i s_i c_j s_j c_k s_k

/-- hence every produced Euler matrix is a proper rotation (shown for all conventions through the
    elementary factors) -/
theorem C19_elementary_rotations (c s : K) (h : c ^ 2 + s ^ 2 = 1) :
    (Rx c s).IsRotation ∧ (Ry c s).IsRotation ∧ (Rz c s).IsRotation :=
  ⟨Rx_isRotation c s h, Ry_isRotation c s h, Rz_isRotation c s h⟩

/-- products of proper rotations are proper rotations -/
theorem C19_rotation_mul (a b : M3 K) (ha : a.IsRotation) (hb : b.IsRotation) : (a * b).IsRotation :=
  ha.mul hb

/-- compares `quatM 2 (traced quaternion)` with the rotation of a product of elementary quaternions entry by entry
    (nine identities of degree six); the theorems below that start from the traces compare the four quaternion
    components instead (`quatM_of_unit`) -/
local macro "qfe_close" d0:ident d1:ident d2:ident d3:ident : tactic => `(tactic| (
  apply M3.ext' <;>
  simp only [quatM, $d0:ident, $d1:ident, $d2:ident, $d3:ident, UQ.rot, UQ.mul_val, UQ.ex_val, UQ.ey_val,
    UQ.ez_val, Q.rot, Q.mul, qM] <;> ring))

/-- the traced `quaternion_matrix`, on the components of a unit quaternion, is that quaternion's rotation -/
theorem quatM_of_unit {w x y z : K} (q : UQ K) (hw : w = q.1.w) (hx : x = q.1.x) (hy : y = q.1.y)
    (hz : z = q.1.z) : quatM 2 w x y z = q.rot := by
  subst hw hx hy hz
  exact quatM_eq_qM 2 _ _ _ _

/-- relabelling the axes relabels the vector part -/
theorem quatM_cyc (t w x y z : K) : (quatM t w x y z).cyc = quatM t w y z x := by
  rw [quatM_eq_qM, quatM_eq_qM, qM_cyc]

/-! ### `quaternion_from_euler` agrees with `euler_matrix` in every convention
(half-angle symbols: `c = ch² − sh²`, `s = 2·sh·ch`) -/

theorem C19_quaternion_from_euler_rxyx (c_ih s_ih c_jh s_jh c_kh s_kh : K)
    (hi : c_ih ^ 2 + s_ih ^ 2 = 1) (hj : c_jh ^ 2 + s_jh ^ 2 = 1) (hk : c_kh ^ 2 + s_kh ^ 2 = 1) :
    quatM 2 (qfe_rxyx_0 c_ih s_ih c_jh s_jh c_kh s_kh) (qfe_rxyx_1 c_ih s_ih c_jh s_jh c_kh s_kh)
        (qfe_rxyx_2 c_ih s_ih c_jh s_jh c_kh s_kh) (qfe_rxyx_3 c_ih s_ih c_jh s_jh c_kh s_kh)
      = euler_rxyx (c_ih ^ 2 - s_ih ^ 2) (2 * s_ih * c_ih) (c_jh ^ 2 - s_jh ^ 2) (2 * s_jh * c_jh)
          (c_kh ^ 2 - s_kh ^ 2) (2 * s_kh * c_kh) := by
  rw [C19_euler_rxyx, ← UQ.rot_ex hi, ← UQ.rot_ey hj, ← UQ.rot_ex hk, ← UQ.rot_mul, ← UQ.rot_mul]
  apply quatM_of_unit <;>
    simp only [qfe_rxyx_0, qfe_rxyx_1, qfe_rxyx_2, qfe_rxyx_3, UQ.mul_val, UQ.ex_val, UQ.ey_val, Q.mul_ex, Q.mul_ey] <;> ring

theorem C19_quaternion_from_euler_rxyz (c_ih s_ih c_jh s_jh c_kh s_kh : K)
    (hi : c_ih ^ 2 + s_ih ^ 2 = 1) (hj : c_jh ^ 2 + s_jh ^ 2 = 1) (hk : c_kh ^ 2 + s_kh ^ 2 = 1) :
    quatM 2 (qfe_rxyz_0 c_ih s_ih c_jh s_jh c_kh s_kh) (qfe_rxyz_1 c_ih s_ih c_jh s_jh c_kh s_kh)
        (qfe_rxyz_2 c_ih s_ih c_jh s_jh c_kh s_kh) (qfe_rxyz_3 c_ih s_ih c_jh s_jh c_kh s_kh)
      = euler_rxyz (c_ih ^ 2 - s_ih ^ 2) (2 * s_ih * c_ih) (c_jh ^ 2 - s_jh ^ 2) (2 * s_jh * c_jh)
          (c_kh ^ 2 - s_kh ^ 2) (2 * s_kh * c_kh) := by
  rw [C19_euler_rxyz, ← UQ.rot_ex hi, ← UQ.rot_ey hj, ← UQ.rot_ez hk, ← UQ.rot_mul, ← UQ.rot_mul]
  apply quatM_of_unit <;>
    simp only [qfe_rxyz_0, qfe_rxyz_1, qfe_rxyz_2, qfe_rxyz_3, UQ.mul_val, UQ.ex_val, UQ.ey_val, UQ.ez_val, Q.mul_ey, Q.mul_ez] <;> ring

theorem C19_quaternion_from_euler_rxzx (c_ih s_ih c_jh s_jh c_kh s_kh : K)
    (hi : c_ih ^ 2 + s_ih ^ 2 = 1) (hj : c_jh ^ 2 + s_jh ^ 2 = 1) (hk : c_kh ^ 2 + s_kh ^ 2 = 1) :
    quatM 2 (qfe_rxzx_0 c_ih s_ih c_jh s_jh c_kh s_kh) (qfe_rxzx_1 c_ih s_ih c_jh s_jh c_kh s_kh)
        (qfe_rxzx_2 c_ih s_ih c_jh s_jh c_kh s_kh) (qfe_rxzx_3 c_ih s_ih c_jh s_jh c_kh s_kh)
      = euler_rxzx (c_ih ^ 2 - s_ih ^ 2) (2 * s_ih * c_ih) (c_jh ^ 2 - s_jh ^ 2) (2 * s_jh * c_jh)
          (c_kh ^ 2 - s_kh ^ 2) (2 * s_kh * c_kh) := by
  rw [C19_euler_rxzx, ← UQ.rot_ex hi, ← UQ.rot_ez hj, ← UQ.rot_ex hk, ← UQ.rot_mul, ← UQ.rot_mul]
  apply quatM_of_unit <;>
    simp only [qfe_rxzx_0, qfe_rxzx_1, qfe_rxzx_2, qfe_rxzx_3, UQ.mul_val, UQ.ex_val, UQ.ez_val, Q.mul_ex, Q.mul_ez] <;> ring

theorem C19_quaternion_from_euler_rxzy (c_ih s_ih c_jh s_jh c_kh s_kh : K)
    (hi : c_ih ^ 2 + s_ih ^ 2 = 1) (hj : c_jh ^ 2 + s_jh ^ 2 = 1) (hk : c_kh ^ 2 + s_kh ^ 2 = 1) :
    quatM 2 (qfe_rxzy_0 c_ih s_ih c_jh s_jh c_kh s_kh) (qfe_rxzy_1 c_ih s_ih c_jh s_jh c_kh s_kh)
        (qfe_rxzy_2 c_ih s_ih c_jh s_jh c_kh s_kh) (qfe_rxzy_3 c_ih s_ih c_jh s_jh c_kh s_kh)
      = euler_rxzy (c_ih ^ 2 - s_ih ^ 2) (2 * s_ih * c_ih) (c_jh ^ 2 - s_jh ^ 2) (2 * s_jh * c_jh)
          (c_kh ^ 2 - s_kh ^ 2) (2 * s_kh * c_kh) := by
  rw [C19_euler_rxzy, ← UQ.rot_ex hi, ← UQ.rot_ez hj, ← UQ.rot_ey hk, ← UQ.rot_mul, ← UQ.rot_mul]
  apply quatM_of_unit <;>
    simp only [qfe_rxzy_0, qfe_rxzy_1, qfe_rxzy_2, qfe_rxzy_3, UQ.mul_val, UQ.ex_val, UQ.ey_val, UQ.ez_val, Q.mul_ey, Q.mul_ez] <;> ring

theorem C19_quaternion_from_euler_ryxy (c_ih s_ih c_jh s_jh c_kh s_kh : K)
    (hi : c_ih ^ 2 + s_ih ^ 2 = 1) (hj : c_jh ^ 2 + s_jh ^ 2 = 1) (hk : c_kh ^ 2 + s_kh ^ 2 = 1) :
    quatM 2 (qfe_ryxy_0 c_ih s_ih c_jh s_jh c_kh s_kh) (qfe_ryxy_1 c_ih s_ih c_jh s_jh c_kh s_kh)
        (qfe_ryxy_2 c_ih s_ih c_jh s_jh c_kh s_kh) (qfe_ryxy_3 c_ih s_ih c_jh s_jh c_kh s_kh)
      = euler_ryxy (c_ih ^ 2 - s_ih ^ 2) (2 * s_ih * c_ih) (c_jh ^ 2 - s_jh ^ 2) (2 * s_jh * c_jh)
          (c_kh ^ 2 - s_kh ^ 2) (2 * s_kh * c_kh) := by
  apply M3.cyc_injective
  rw [quatM_cyc, ← euler_rxzx_eq_cyc]
  exact C19_quaternion_from_euler_rxzx c_ih s_ih c_jh s_jh c_kh s_kh hi hj hk

theorem C19_quaternion_from_euler_ryxz (c_ih s_ih c_jh s_jh c_kh s_kh : K)
    (hi : c_ih ^ 2 + s_ih ^ 2 = 1) (hj : c_jh ^ 2 + s_jh ^ 2 = 1) (hk : c_kh ^ 2 + s_kh ^ 2 = 1) :
    quatM 2 (qfe_ryxz_0 c_ih s_ih c_jh s_jh c_kh s_kh) (qfe_ryxz_1 c_ih s_ih c_jh s_jh c_kh s_kh)
        (qfe_ryxz_2 c_ih s_ih c_jh s_jh c_kh s_kh) (qfe_ryxz_3 c_ih s_ih c_jh s_jh c_kh s_kh)
      = euler_ryxz (c_ih ^ 2 - s_ih ^ 2) (2 * s_ih * c_ih) (c_jh ^ 2 - s_jh ^ 2) (2 * s_jh * c_jh)
          (c_kh ^ 2 - s_kh ^ 2) (2 * s_kh * c_kh) := by
  apply M3.cyc_injective
  rw [quatM_cyc, ← euler_rxzy_eq_cyc]
  exact C19_quaternion_from_euler_rxzy c_ih s_ih c_jh s_jh c_kh s_kh hi hj hk

theorem C19_quaternion_from_euler_ryzx (c_ih s_ih c_jh s_jh c_kh s_kh : K)
    (hi : c_ih ^ 2 + s_ih ^ 2 = 1) (hj : c_jh ^ 2 + s_jh ^ 2 = 1) (hk : c_kh ^ 2 + s_kh ^ 2 = 1) :
    quatM 2 (qfe_ryzx_0 c_ih s_ih c_jh s_jh c_kh s_kh) (qfe_ryzx_1 c_ih s_ih c_jh s_jh c_kh s_kh)
        (qfe_ryzx_2 c_ih s_ih c_jh s_jh c_kh s_kh) (qfe_ryzx_3 c_ih s_ih c_jh s_jh c_kh s_kh)
      = euler_ryzx (c_ih ^ 2 - s_ih ^ 2) (2 * s_ih * c_ih) (c_jh ^ 2 - s_jh ^ 2) (2 * s_jh * c_jh)
          (c_kh ^ 2 - s_kh ^ 2) (2 * s_kh * c_kh) := by
  apply M3.cyc_injective
  rw [quatM_cyc, ← euler_rxyz_eq_cyc]
  exact C19_quaternion_from_euler_rxyz c_ih s_ih c_jh s_jh c_kh s_kh hi hj hk

theorem C19_quaternion_from_euler_ryzy (c_ih s_ih c_jh s_jh c_kh s_kh : K)
    (hi : c_ih ^ 2 + s_ih ^ 2 = 1) (hj : c_jh ^ 2 + s_jh ^ 2 = 1) (hk : c_kh ^ 2 + s_kh ^ 2 = 1) :
    quatM 2 (qfe_ryzy_0 c_ih s_ih c_jh s_jh c_kh s_kh) (qfe_ryzy_1 c_ih s_ih c_jh s_jh c_kh s_kh)
        (qfe_ryzy_2 c_ih s_ih c_jh s_jh c_kh s_kh) (qfe_ryzy_3 c_ih s_ih c_jh s_jh c_kh s_kh)
      = euler_ryzy (c_ih ^ 2 - s_ih ^ 2) (2 * s_ih * c_ih) (c_jh ^ 2 - s_jh ^ 2) (2 * s_jh * c_jh)
          (c_kh ^ 2 - s_kh ^ 2) (2 * s_kh * c_kh) := by
  apply M3.cyc_injective
  rw [quatM_cyc, ← euler_rxyx_eq_cyc]
  exact C19_quaternion_from_euler_rxyx c_ih s_ih c_jh s_jh c_kh s_kh hi hj hk

theorem C19_quaternion_from_euler_rzxy (c_ih s_ih c_jh s_jh c_kh s_kh : K)
    (hi : c_ih ^ 2 + s_ih ^ 2 = 1) (hj : c_jh ^ 2 + s_jh ^ 2 = 1) (hk : c_kh ^ 2 + s_kh ^ 2 = 1) :
    quatM 2 (qfe_rzxy_0 c_ih s_ih c_jh s_jh c_kh s_kh) (qfe_rzxy_1 c_ih s_ih c_jh s_jh c_kh s_kh)
        (qfe_rzxy_2 c_ih s_ih c_jh s_jh c_kh s_kh) (qfe_rzxy_3 c_ih s_ih c_jh s_jh c_kh s_kh)
      = euler_rzxy (c_ih ^ 2 - s_ih ^ 2) (2 * s_ih * c_ih) (c_jh ^ 2 - s_jh ^ 2) (2 * s_jh * c_jh)
          (c_kh ^ 2 - s_kh ^ 2) (2 * s_kh * c_kh) := by
  apply M3.cyc_injective
  rw [quatM_cyc, ← euler_ryzx_eq_cyc]
  exact C19_quaternion_from_euler_ryzx c_ih s_ih c_jh s_jh c_kh s_kh hi hj hk

theorem C19_quaternion_from_euler_rzxz (c_ih s_ih c_jh s_jh c_kh s_kh : K)
    (hi : c_ih ^ 2 + s_ih ^ 2 = 1) (hj : c_jh ^ 2 + s_jh ^ 2 = 1) (hk : c_kh ^ 2 + s_kh ^ 2 = 1) :
    quatM 2 (qfe_rzxz_0 c_ih s_ih c_jh s_jh c_kh s_kh) (qfe_rzxz_1 c_ih s_ih c_jh s_jh c_kh s_kh)
        (qfe_rzxz_2 c_ih s_ih c_jh s_jh c_kh s_kh) (qfe_rzxz_3 c_ih s_ih c_jh s_jh c_kh s_kh)
      = euler_rzxz (c_ih ^ 2 - s_ih ^ 2) (2 * s_ih * c_ih) (c_jh ^ 2 - s_jh ^ 2) (2 * s_jh * c_jh)
          (c_kh ^ 2 - s_kh ^ 2) (2 * s_kh * c_kh) := by
  apply M3.cyc_injective
  rw [quatM_cyc, ← euler_ryzy_eq_cyc]
  exact C19_quaternion_from_euler_ryzy c_ih s_ih c_jh s_jh c_kh s_kh hi hj hk

theorem C19_quaternion_from_euler_rzyx (c_ih s_ih c_jh s_jh c_kh s_kh : K)
    (hi : c_ih ^ 2 + s_ih ^ 2 = 1) (hj : c_jh ^ 2 + s_jh ^ 2 = 1) (hk : c_kh ^ 2 + s_kh ^ 2 = 1) :
    quatM 2 (qfe_rzyx_0 c_ih s_ih c_jh s_jh c_kh s_kh) (qfe_rzyx_1 c_ih s_ih c_jh s_jh c_kh s_kh)
        (qfe_rzyx_2 c_ih s_ih c_jh s_jh c_kh s_kh) (qfe_rzyx_3 c_ih s_ih c_jh s_jh c_kh s_kh)
      = euler_rzyx (c_ih ^ 2 - s_ih ^ 2) (2 * s_ih * c_ih) (c_jh ^ 2 - s_jh ^ 2) (2 * s_jh * c_jh)
          (c_kh ^ 2 - s_kh ^ 2) (2 * s_kh * c_kh) := by
  apply M3.cyc_injective
  rw [quatM_cyc, ← euler_ryxz_eq_cyc]
  exact C19_quaternion_from_euler_ryxz c_ih s_ih c_jh s_jh c_kh s_kh hi hj hk

theorem C19_quaternion_from_euler_rzyz (c_ih s_ih c_jh s_jh c_kh s_kh : K)
    (hi : c_ih ^ 2 + s_ih ^ 2 = 1) (hj : c_jh ^ 2 + s_jh ^ 2 = 1) (hk : c_kh ^ 2 + s_kh ^ 2 = 1) :
    quatM 2 (qfe_rzyz_0 c_ih s_ih c_jh s_jh c_kh s_kh) (qfe_rzyz_1 c_ih s_ih c_jh s_jh c_kh s_kh)
        (qfe_rzyz_2 c_ih s_ih c_jh s_jh c_kh s_kh) (qfe_rzyz_3 c_ih s_ih c_jh s_jh c_kh s_kh)
      = euler_rzyz (c_ih ^ 2 - s_ih ^ 2) (2 * s_ih * c_ih) (c_jh ^ 2 - s_jh ^ 2) (2 * s_jh * c_jh)
          (c_kh ^ 2 - s_kh ^ 2) (2 * s_kh * c_kh) := by
  apply M3.cyc_injective
  rw [quatM_cyc, ← euler_ryxy_eq_cyc]
  exact C19_quaternion_from_euler_ryxy c_ih s_ih c_jh s_jh c_kh s_kh hi hj hk

theorem C19_quaternion_from_euler_sxyx (c_ih s_ih c_jh s_jh c_kh s_kh : K)
    (hi : c_ih ^ 2 + s_ih ^ 2 = 1) (hj : c_jh ^ 2 + s_jh ^ 2 = 1) (hk : c_kh ^ 2 + s_kh ^ 2 = 1) :
    quatM 2 (qfe_sxyx_0 c_ih s_ih c_jh s_jh c_kh s_kh) (qfe_sxyx_1 c_ih s_ih c_jh s_jh c_kh s_kh)
        (qfe_sxyx_2 c_ih s_ih c_jh s_jh c_kh s_kh) (qfe_sxyx_3 c_ih s_ih c_jh s_jh c_kh s_kh)
      = euler_sxyx (c_ih ^ 2 - s_ih ^ 2) (2 * s_ih * c_ih) (c_jh ^ 2 - s_jh ^ 2) (2 * s_jh * c_jh)
          (c_kh ^ 2 - s_kh ^ 2) (2 * s_kh * c_kh) := by
  rw [C19_euler_sxyx, ← UQ.rot_ex hk, ← UQ.rot_ey hj, ← UQ.rot_ex hi, ← UQ.rot_mul, ← UQ.rot_mul]
  apply quatM_of_unit <;>
    simp only [qfe_sxyx_0, qfe_sxyx_1, qfe_sxyx_2, qfe_sxyx_3, UQ.mul_val, UQ.ex_val, UQ.ey_val, Q.mul_ex, Q.mul_ey] <;> ring

theorem C19_quaternion_from_euler_sxyz (c_ih s_ih c_jh s_jh c_kh s_kh : K)
    (hi : c_ih ^ 2 + s_ih ^ 2 = 1) (hj : c_jh ^ 2 + s_jh ^ 2 = 1) (hk : c_kh ^ 2 + s_kh ^ 2 = 1) :
    quatM 2 (qfe_sxyz_0 c_ih s_ih c_jh s_jh c_kh s_kh) (qfe_sxyz_1 c_ih s_ih c_jh s_jh c_kh s_kh)
        (qfe_sxyz_2 c_ih s_ih c_jh s_jh c_kh s_kh) (qfe_sxyz_3 c_ih s_ih c_jh s_jh c_kh s_kh)
      = euler_sxyz (c_ih ^ 2 - s_ih ^ 2) (2 * s_ih * c_ih) (c_jh ^ 2 - s_jh ^ 2) (2 * s_jh * c_jh)
          (c_kh ^ 2 - s_kh ^ 2) (2 * s_kh * c_kh) := by
  rw [C19_euler_sxyz, ← UQ.rot_ez hk, ← UQ.rot_ey hj, ← UQ.rot_ex hi, ← UQ.rot_mul, ← UQ.rot_mul]
  apply quatM_of_unit <;>
    simp only [qfe_sxyz_0, qfe_sxyz_1, qfe_sxyz_2, qfe_sxyz_3, UQ.mul_val, UQ.ex_val, UQ.ey_val, UQ.ez_val, Q.mul_ex, Q.mul_ey] <;> ring

theorem C19_quaternion_from_euler_sxzx (c_ih s_ih c_jh s_jh c_kh s_kh : K)
    (hi : c_ih ^ 2 + s_ih ^ 2 = 1) (hj : c_jh ^ 2 + s_jh ^ 2 = 1) (hk : c_kh ^ 2 + s_kh ^ 2 = 1) :
    quatM 2 (qfe_sxzx_0 c_ih s_ih c_jh s_jh c_kh s_kh) (qfe_sxzx_1 c_ih s_ih c_jh s_jh c_kh s_kh)
        (qfe_sxzx_2 c_ih s_ih c_jh s_jh c_kh s_kh) (qfe_sxzx_3 c_ih s_ih c_jh s_jh c_kh s_kh)
      = euler_sxzx (c_ih ^ 2 - s_ih ^ 2) (2 * s_ih * c_ih) (c_jh ^ 2 - s_jh ^ 2) (2 * s_jh * c_jh)
          (c_kh ^ 2 - s_kh ^ 2) (2 * s_kh * c_kh) := by
  rw [C19_euler_sxzx, ← UQ.rot_ex hk, ← UQ.rot_ez hj, ← UQ.rot_ex hi, ← UQ.rot_mul, ← UQ.rot_mul]
  apply quatM_of_unit <;>
    simp only [qfe_sxzx_0, qfe_sxzx_1, qfe_sxzx_2, qfe_sxzx_3, UQ.mul_val, UQ.ex_val, UQ.ez_val, Q.mul_ex, Q.mul_ez] <;> ring

theorem C19_quaternion_from_euler_sxzy (c_ih s_ih c_jh s_jh c_kh s_kh : K)
    (hi : c_ih ^ 2 + s_ih ^ 2 = 1) (hj : c_jh ^ 2 + s_jh ^ 2 = 1) (hk : c_kh ^ 2 + s_kh ^ 2 = 1) :
    quatM 2 (qfe_sxzy_0 c_ih s_ih c_jh s_jh c_kh s_kh) (qfe_sxzy_1 c_ih s_ih c_jh s_jh c_kh s_kh)
        (qfe_sxzy_2 c_ih s_ih c_jh s_jh c_kh s_kh) (qfe_sxzy_3 c_ih s_ih c_jh s_jh c_kh s_kh)
      = euler_sxzy (c_ih ^ 2 - s_ih ^ 2) (2 * s_ih * c_ih) (c_jh ^ 2 - s_jh ^ 2) (2 * s_jh * c_jh)
          (c_kh ^ 2 - s_kh ^ 2) (2 * s_kh * c_kh) := by
  rw [C19_euler_sxzy, ← UQ.rot_ey hk, ← UQ.rot_ez hj, ← UQ.rot_ex hi, ← UQ.rot_mul, ← UQ.rot_mul]
  apply quatM_of_unit <;>
    simp only [qfe_sxzy_0, qfe_sxzy_1, qfe_sxzy_2, qfe_sxzy_3, UQ.mul_val, UQ.ex_val, UQ.ey_val, UQ.ez_val, Q.mul_ex, Q.mul_ez] <;> ring

theorem C19_quaternion_from_euler_syxy (c_ih s_ih c_jh s_jh c_kh s_kh : K)
    (hi : c_ih ^ 2 + s_ih ^ 2 = 1) (hj : c_jh ^ 2 + s_jh ^ 2 = 1) (hk : c_kh ^ 2 + s_kh ^ 2 = 1) :
    quatM 2 (qfe_syxy_0 c_ih s_ih c_jh s_jh c_kh s_kh) (qfe_syxy_1 c_ih s_ih c_jh s_jh c_kh s_kh)
        (qfe_syxy_2 c_ih s_ih c_jh s_jh c_kh s_kh) (qfe_syxy_3 c_ih s_ih c_jh s_jh c_kh s_kh)
      = euler_syxy (c_ih ^ 2 - s_ih ^ 2) (2 * s_ih * c_ih) (c_jh ^ 2 - s_jh ^ 2) (2 * s_jh * c_jh)
          (c_kh ^ 2 - s_kh ^ 2) (2 * s_kh * c_kh) := by
  apply M3.cyc_injective
  rw [quatM_cyc, ← euler_sxzx_eq_cyc]
  exact C19_quaternion_from_euler_sxzx c_ih s_ih c_jh s_jh c_kh s_kh hi hj hk

theorem C19_quaternion_from_euler_syxz (c_ih s_ih c_jh s_jh c_kh s_kh : K)
    (hi : c_ih ^ 2 + s_ih ^ 2 = 1) (hj : c_jh ^ 2 + s_jh ^ 2 = 1) (hk : c_kh ^ 2 + s_kh ^ 2 = 1) :
    quatM 2 (qfe_syxz_0 c_ih s_ih c_jh s_jh c_kh s_kh) (qfe_syxz_1 c_ih s_ih c_jh s_jh c_kh s_kh)
        (qfe_syxz_2 c_ih s_ih c_jh s_jh c_kh s_kh) (qfe_syxz_3 c_ih s_ih c_jh s_jh c_kh s_kh)
      = euler_syxz (c_ih ^ 2 - s_ih ^ 2) (2 * s_ih * c_ih) (c_jh ^ 2 - s_jh ^ 2) (2 * s_jh * c_jh)
          (c_kh ^ 2 - s_kh ^ 2) (2 * s_kh * c_kh) := by
  apply M3.cyc_injective
  rw [quatM_cyc, ← euler_sxzy_eq_cyc]
  exact C19_quaternion_from_euler_sxzy c_ih s_ih c_jh s_jh c_kh s_kh hi hj hk

theorem C19_quaternion_from_euler_syzx (c_ih s_ih c_jh s_jh c_kh s_kh : K)
    (hi : c_ih ^ 2 + s_ih ^ 2 = 1) (hj : c_jh ^ 2 + s_jh ^ 2 = 1) (hk : c_kh ^ 2 + s_kh ^ 2 = 1) :
    quatM 2 (qfe_syzx_0 c_ih s_ih c_jh s_jh c_kh s_kh) (qfe_syzx_1 c_ih s_ih c_jh s_jh c_kh s_kh)
        (qfe_syzx_2 c_ih s_ih c_jh s_jh c_kh s_kh) (qfe_syzx_3 c_ih s_ih c_jh s_jh c_kh s_kh)
      = euler_syzx (c_ih ^ 2 - s_ih ^ 2) (2 * s_ih * c_ih) (c_jh ^ 2 - s_jh ^ 2) (2 * s_jh * c_jh)
          (c_kh ^ 2 - s_kh ^ 2) (2 * s_kh * c_kh) := by
  apply M3.cyc_injective
  rw [quatM_cyc, ← euler_sxyz_eq_cyc]
  exact C19_quaternion_from_euler_sxyz c_ih s_ih c_jh s_jh c_kh s_kh hi hj hk

theorem C19_quaternion_from_euler_syzy (c_ih s_ih c_jh s_jh c_kh s_kh : K)
    (hi : c_ih ^ 2 + s_ih ^ 2 = 1) (hj : c_jh ^ 2 + s_jh ^ 2 = 1) (hk : c_kh ^ 2 + s_kh ^ 2 = 1) :
    quatM 2 (qfe_syzy_0 c_ih s_ih c_jh s_jh c_kh s_kh) (qfe_syzy_1 c_ih s_ih c_jh s_jh c_kh s_kh)
        (qfe_syzy_2 c_ih s_ih c_jh s_jh c_kh s_kh) (qfe_syzy_3 c_ih s_ih c_jh s_jh c_kh s_kh)
      = euler_syzy (c_ih ^ 2 - s_ih ^ 2) (2 * s_ih * c_ih) (c_jh ^ 2 - s_jh ^ 2) (2 * s_jh * c_jh)
          (c_kh ^ 2 - s_kh ^ 2) (2 * s_kh * c_kh) := by
  apply M3.cyc_injective
  rw [quatM_cyc, ← euler_sxyx_eq_cyc]
  exact C19_quaternion_from_euler_sxyx c_ih s_ih c_jh s_jh c_kh s_kh hi hj hk

theorem C19_quaternion_from_euler_szxy (c_ih s_ih c_jh s_jh c_kh s_kh : K)
    (hi : c_ih ^ 2 + s_ih ^ 2 = 1) (hj : c_jh ^ 2 + s_jh ^ 2 = 1) (hk : c_kh ^ 2 + s_kh ^ 2 = 1) :
    quatM 2 (qfe_szxy_0 c_ih s_ih c_jh s_jh c_kh s_kh) (qfe_szxy_1 c_ih s_ih c_jh s_jh c_kh s_kh)
        (qfe_szxy_2 c_ih s_ih c_jh s_jh c_kh s_kh) (qfe_szxy_3 c_ih s_ih c_jh s_jh c_kh s_kh)
      = euler_szxy (c_ih ^ 2 - s_ih ^ 2) (2 * s_ih * c_ih) (c_jh ^ 2 - s_jh ^ 2) (2 * s_jh * c_jh)
          (c_kh ^ 2 - s_kh ^ 2) (2 * s_kh * c_kh) := by
  apply M3.cyc_injective
  rw [quatM_cyc, ← euler_syzx_eq_cyc]
  exact C19_quaternion_from_euler_syzx c_ih s_ih c_jh s_jh c_kh s_kh hi hj hk

theorem C19_quaternion_from_euler_szxz (c_ih s_ih c_jh s_jh c_kh s_kh : K)
    (hi : c_ih ^ 2 + s_ih ^ 2 = 1) (hj : c_jh ^ 2 + s_jh ^ 2 = 1) (hk : c_kh ^ 2 + s_kh ^ 2 = 1) :
    quatM 2 (qfe_szxz_0 c_ih s_ih c_jh s_jh c_kh s_kh) (qfe_szxz_1 c_ih s_ih c_jh s_jh c_kh s_kh)
        (qfe_szxz_2 c_ih s_ih c_jh s_jh c_kh s_kh) (qfe_szxz_3 c_ih s_ih c_jh s_jh c_kh s_kh)
      = euler_szxz (c_ih ^ 2 - s_ih ^ 2) (2 * s_ih * c_ih) (c_jh ^ 2 - s_jh ^ 2) (2 * s_jh * c_jh)
          (c_kh ^ 2 - s_kh ^ 2) (2 * s_kh * c_kh) := by
  apply M3.cyc_injective
  rw [quatM_cyc, ← euler_syzy_eq_cyc]
  exact C19_quaternion_from_euler_syzy c_ih s_ih c_jh s_jh c_kh s_kh hi hj hk

theorem C19_quaternion_from_euler_szyx (c_ih s_ih c_jh s_jh c_kh s_kh : K)
    (hi : c_ih ^ 2 + s_ih ^ 2 = 1) (hj : c_jh ^ 2 + s_jh ^ 2 = 1) (hk : c_kh ^ 2 + s_kh ^ 2 = 1) :
    quatM 2 (qfe_szyx_0 c_ih s_ih c_jh s_jh c_kh s_kh) (qfe_szyx_1 c_ih s_ih c_jh s_jh c_kh s_kh)
        (qfe_szyx_2 c_ih s_ih c_jh s_jh c_kh s_kh) (qfe_szyx_3 c_ih s_ih c_jh s_jh c_kh s_kh)
      = euler_szyx (c_ih ^ 2 - s_ih ^ 2) (2 * s_ih * c_ih) (c_jh ^ 2 - s_jh ^ 2) (2 * s_jh * c_jh)
          (c_kh ^ 2 - s_kh ^ 2) (2 * s_kh * c_kh) := by
  apply M3.cyc_injective
  rw [quatM_cyc, ← euler_syxz_eq_cyc]
  exact C19_quaternion_from_euler_syxz c_ih s_ih c_jh s_jh c_kh s_kh hi hj hk

theorem C19_quaternion_from_euler_szyz (c_ih s_ih c_jh s_jh c_kh s_kh : K)
    (hi : c_ih ^ 2 + s_ih ^ 2 = 1) (hj : c_jh ^ 2 + s_jh ^ 2 = 1) (hk : c_kh ^ 2 + s_kh ^ 2 = 1) :
    quatM 2 (qfe_szyz_0 c_ih s_ih c_jh s_jh c_kh s_kh) (qfe_szyz_1 c_ih s_ih c_jh s_jh c_kh s_kh)
        (qfe_szyz_2 c_ih s_ih c_jh s_jh c_kh s_kh) (qfe_szyz_3 c_ih s_ih c_jh s_jh c_kh s_kh)
      = euler_szyz (c_ih ^ 2 - s_ih ^ 2) (2 * s_ih * c_ih) (c_jh ^ 2 - s_jh ^ 2) (2 * s_jh * c_jh)
          (c_kh ^ 2 - s_kh ^ 2) (2 * s_kh * c_kh) := by
  apply M3.cyc_injective
  rw [quatM_cyc, ← euler_syxy_eq_cyc]
  exact C19_quaternion_from_euler_syxy c_ih s_ih c_jh s_jh c_kh s_kh hi hj hk

/-! ### points -/

/-- `transform_points` is homogeneous matrix multiplication in 3D (with and without translation) and 2D -/
theorem C19_transform_points (m00 m01 m02 m03 m10 m11 m12 m13 m20 m21 m22 m23 m30 m31 m32 m33 x1 x2 x3 : K)
    (n00 n01 n02 n10 n11 n12 n20 n21 n22 y1 y2 : K) :
    tp3_0 m00 m01 m02 m03 m10 m11 m12 m13 m20 m21 m22 m23 m30 m31 m32 m33 x1 x2 x3 = m00 * x1 + m01 * x2 + m02 * x3 + m03 ∧
    tp3_1 m00 m01 m02 m03 m10 m11 m12 m13 m20 m21 m22 m23 m30 m31 m32 m33 x1 x2 x3 = m10 * x1 + m11 * x2 + m12 * x3 + m13 ∧
    tp3_2 m00 m01 m02 m03 m10 m11 m12 m13 m20 m21 m22 m23 m30 m31 m32 m33 x1 x2 x3 = m20 * x1 + m21 * x2 + m22 * x3 + m23 ∧
    tp3r_0 m00 m01 m02 m03 m10 m11 m12 m13 m20 m21 m22 m23 m30 m31 m32 m33 x1 x2 x3 = m00 * x1 + m01 * x2 + m02 * x3 ∧
    tp3r_1 m00 m01 m02 m03 m10 m11 m12 m13 m20 m21 m22 m23 m30 m31 m32 m33 x1 x2 x3 = m10 * x1 + m11 * x2 + m12 * x3 ∧
    tp3r_2 m00 m01 m02 m03 m10 m11 m12 m13 m20 m21 m22 m23 m30 m31 m32 m33 x1 x2 x3 = m20 * x1 + m21 * x2 + m22 * x3 ∧
    tp2_0 n00 n01 n02 n10 n11 n12 n20 n21 n22 y1 y2 = n00 * y1 + n01 * y2 + n02 ∧
    tp2_1 n00 n01 n02 n10 n11 n12 n20 n21 n22 y1 y2 = n10 * y1 + n11 * y2 + n12 := by
  simp only [tp3_0, tp3_1, tp3_2, tp3r_0, tp3r_1, tp3r_2, tp2_0, tp2_1]
  refine ⟨?_, ?_, ?_, ?_, ?_, ?_, ?_, ?_⟩ <;> ring


/-! ### inverse direction: `euler_from_matrix` (traced, both branches, Generated/C19Inverse.lean)

For every convention the real `euler_from_matrix` is run on a symbolic matrix; its one square root is the symbol
`sq` (radicand `r_<axes>_rad`), and each `arctan2(y, x)` it returns is recorded as the pair `r_<axes>_y<n>`,
`r_<axes>_x<n>` (regular branch) or `g_<axes>_…` (gimbal branch).  The theorems substitute
`M = euler_matrix(ai, aj, ak, axes)`.

**Regular branch** (`C19_euler_from_matrix_<axes>`): the radicand is the square of a factor `L` - `sin aj` for the
conventions that repeat an axis, `cos aj` for the others, `-sin aj` where the code negates the angles after reading
them - and the arctan2 arguments for `ai`, `ak` are `L` times `(sin, cos)`; the middle pair has the root in place of
`L`.  So by `C19_atan2_arguments` the angles are recovered exactly where `L` is positive.  Four proofs (`rxyx`,
`rxyz`, `rxzx`, `rxzy`) unfold the traces: the radicand needs the relation of the one outer angle it sums over, the
rest is `ring`.  The other rotating-frame theorems follow by relabelling the axes (`euler_<axes>_eq_cyc`): the inverse
trace of the relabelled convention reads the cyclically shifted entries, which the closing `exact` checks by unfolding
(with `add_comm` where the two summands of the radicand come out exchanged).  A static-frame theorem is the
rotating-frame one of the reversed axes (`euler_<axes>_eq`).

**Gimbal branch** (`C19_euler_from_matrix_gimbal_<axes>`, `L = 0`): one outer angle is returned as 0 and the other as
`arctan2(y, x)` with `x² + y² = 1`; these, with the middle angle that went in, rebuild exactly the matrix they were
read from (the middle pair the branch returns is traced but not covered by a theorem).  Four are proved from the
traces (`rxyx`, `rxyz`, `rxzx`, `rxzy`): with `L = 0` seven entries agree identically, and the two that multiply the
recovered angle by the surviving `cos aj` (or `sin aj`) need its square to be 1.  The others follow in the same two
ways. -/

open TV.Generated.C19Inv

-- every statement below carries the relations of all three angles; a regular-branch proof needs only the one its
-- radicand sums over
set_option linter.unusedVariables false

/-! A static-frame convention is the rotating-frame convention with the axes reversed and the outer angles
exchanged (`euler_matrix` does exactly that: `if frame: ai, ak = ak, ai`); the static-frame theorems about
`euler_from_matrix` below are the rotating-frame ones read through these equations: the inverse trace of the
reversed convention reads the same entries (`r_s<abc>_y0` and `r_r<cba>_y2` are the same polynomial, and so on), which
the closing `exact` checks by unfolding. -/

theorem euler_sxyx_eq (c_i s_i c_j s_j c_k s_k : K) :
    euler_sxyx c_i s_i c_j s_j c_k s_k = euler_rxyx c_k s_k c_j s_j c_i s_i := by
  rw [C19_euler_sxyx, C19_euler_rxyx]

theorem euler_sxyz_eq (c_i s_i c_j s_j c_k s_k : K) :
    euler_sxyz c_i s_i c_j s_j c_k s_k = euler_rzyx c_k s_k c_j s_j c_i s_i := by
  rw [C19_euler_sxyz, C19_euler_rzyx]

theorem euler_sxzx_eq (c_i s_i c_j s_j c_k s_k : K) :
    euler_sxzx c_i s_i c_j s_j c_k s_k = euler_rxzx c_k s_k c_j s_j c_i s_i := by
  rw [C19_euler_sxzx, C19_euler_rxzx]

theorem euler_sxzy_eq (c_i s_i c_j s_j c_k s_k : K) :
    euler_sxzy c_i s_i c_j s_j c_k s_k = euler_ryzx c_k s_k c_j s_j c_i s_i := by
  rw [C19_euler_sxzy, C19_euler_ryzx]

theorem euler_syxy_eq (c_i s_i c_j s_j c_k s_k : K) :
    euler_syxy c_i s_i c_j s_j c_k s_k = euler_ryxy c_k s_k c_j s_j c_i s_i := by
  rw [C19_euler_syxy, C19_euler_ryxy]

theorem euler_syxz_eq (c_i s_i c_j s_j c_k s_k : K) :
    euler_syxz c_i s_i c_j s_j c_k s_k = euler_rzxy c_k s_k c_j s_j c_i s_i := by
  rw [C19_euler_syxz, C19_euler_rzxy]

theorem euler_syzx_eq (c_i s_i c_j s_j c_k s_k : K) :
    euler_syzx c_i s_i c_j s_j c_k s_k = euler_rxzy c_k s_k c_j s_j c_i s_i := by
  rw [C19_euler_syzx, C19_euler_rxzy]

theorem euler_syzy_eq (c_i s_i c_j s_j c_k s_k : K) :
    euler_syzy c_i s_i c_j s_j c_k s_k = euler_ryzy c_k s_k c_j s_j c_i s_i := by
  rw [C19_euler_syzy, C19_euler_ryzy]

theorem euler_szxy_eq (c_i s_i c_j s_j c_k s_k : K) :
    euler_szxy c_i s_i c_j s_j c_k s_k = euler_ryxz c_k s_k c_j s_j c_i s_i := by
  rw [C19_euler_szxy, C19_euler_ryxz]

theorem euler_szxz_eq (c_i s_i c_j s_j c_k s_k : K) :
    euler_szxz c_i s_i c_j s_j c_k s_k = euler_rzxz c_k s_k c_j s_j c_i s_i := by
  rw [C19_euler_szxz, C19_euler_rzxz]

theorem euler_szyx_eq (c_i s_i c_j s_j c_k s_k : K) :
    euler_szyx c_i s_i c_j s_j c_k s_k = euler_rxyz c_k s_k c_j s_j c_i s_i := by
  rw [C19_euler_szyx, C19_euler_rxyz]

theorem euler_szyz_eq (c_i s_i c_j s_j c_k s_k : K) :
    euler_szyz c_i s_i c_j s_j c_k s_k = euler_rzyz c_k s_k c_j s_j c_i s_i := by
  rw [C19_euler_szyz, C19_euler_rzyz]

/-- what it means for `arctan2(Y, X)` to recover an angle with cosine `c` and sine `s`: if
    `(Y, X) = L · (s, c)` then the point `(X, Y)` lies on the line through the origin with direction `(c, s)`,
    at signed distance `L` along it - so `arctan2` returns that angle exactly when `L > 0` -/
theorem C19_atan2_arguments (Y X L c s : K) (h : c ^ 2 + s ^ 2 = 1) (hy : Y = L * s) (hx : X = L * c) :
    Y * c - X * s = 0 ∧ Y * s + X * c = L ∧ X ^ 2 + Y ^ 2 = L ^ 2 := by
  subst hy hx
  refine ⟨by ring, by linear_combination L * h, by linear_combination L ^ 2 * h⟩

theorem C19_euler_from_matrix_rxyx (c_i s_i c_j s_j c_k s_k sq : K) (hi : c_i ^ 2 + s_i ^ 2 = 1) (hj : c_j ^ 2 + s_j ^ 2 = 1) (hk : c_k ^ 2 + s_k ^ 2 = 1) :
    r_rxyx_rad (euler_rxyx c_i s_i c_j s_j c_k s_k) = s_j ^ 2 ∧
    r_rxyx_y0 (euler_rxyx c_i s_i c_j s_j c_k s_k) sq = s_j * s_i ∧
    r_rxyx_x0 (euler_rxyx c_i s_i c_j s_j c_k s_k) sq = s_j * c_i ∧
    r_rxyx_y1 (euler_rxyx c_i s_i c_j s_j c_k s_k) sq = sq ∧
    r_rxyx_x1 (euler_rxyx c_i s_i c_j s_j c_k s_k) sq = c_j ∧
    r_rxyx_y2 (euler_rxyx c_i s_i c_j s_j c_k s_k) sq = s_j * s_k ∧
    r_rxyx_x2 (euler_rxyx c_i s_i c_j s_j c_k s_k) sq = s_j * c_k := by
  simp only [r_rxyx_rad, r_rxyx_y0, r_rxyx_x0, r_rxyx_y1, r_rxyx_x1, r_rxyx_y2, r_rxyx_x2, euler_rxyx]
  refine ⟨by linear_combination s_j ^ 2 * hk, ?_, ?_, ?_, ?_, ?_, ?_⟩ <;> ring

theorem C19_euler_from_matrix_rxyz (c_i s_i c_j s_j c_k s_k sq : K) (hi : c_i ^ 2 + s_i ^ 2 = 1) (hj : c_j ^ 2 + s_j ^ 2 = 1) (hk : c_k ^ 2 + s_k ^ 2 = 1) :
    r_rxyz_rad (euler_rxyz c_i s_i c_j s_j c_k s_k) = c_j ^ 2 ∧
    r_rxyz_y0 (euler_rxyz c_i s_i c_j s_j c_k s_k) sq = c_j * s_i ∧
    r_rxyz_x0 (euler_rxyz c_i s_i c_j s_j c_k s_k) sq = c_j * c_i ∧
    r_rxyz_y1 (euler_rxyz c_i s_i c_j s_j c_k s_k) sq = s_j ∧
    r_rxyz_x1 (euler_rxyz c_i s_i c_j s_j c_k s_k) sq = sq ∧
    r_rxyz_y2 (euler_rxyz c_i s_i c_j s_j c_k s_k) sq = c_j * s_k ∧
    r_rxyz_x2 (euler_rxyz c_i s_i c_j s_j c_k s_k) sq = c_j * c_k := by
  simp only [r_rxyz_rad, r_rxyz_y0, r_rxyz_x0, r_rxyz_y1, r_rxyz_x1, r_rxyz_y2, r_rxyz_x2, euler_rxyz]
  refine ⟨by linear_combination c_j ^ 2 * hi, ?_, ?_, ?_, ?_, ?_, ?_⟩ <;> ring

theorem C19_euler_from_matrix_rxzx (c_i s_i c_j s_j c_k s_k sq : K) (hi : c_i ^ 2 + s_i ^ 2 = 1) (hj : c_j ^ 2 + s_j ^ 2 = 1) (hk : c_k ^ 2 + s_k ^ 2 = 1) :
    r_rxzx_rad (euler_rxzx c_i s_i c_j s_j c_k s_k) = (-s_j) ^ 2 ∧
    r_rxzx_y0 (euler_rxzx c_i s_i c_j s_j c_k s_k) sq = (-s_j) * s_i ∧
    r_rxzx_x0 (euler_rxzx c_i s_i c_j s_j c_k s_k) sq = (-s_j) * c_i ∧
    r_rxzx_y1 (euler_rxzx c_i s_i c_j s_j c_k s_k) sq = -sq ∧
    r_rxzx_x1 (euler_rxzx c_i s_i c_j s_j c_k s_k) sq = c_j ∧
    r_rxzx_y2 (euler_rxzx c_i s_i c_j s_j c_k s_k) sq = (-s_j) * s_k ∧
    r_rxzx_x2 (euler_rxzx c_i s_i c_j s_j c_k s_k) sq = (-s_j) * c_k := by
  simp only [r_rxzx_rad, r_rxzx_y0, r_rxzx_x0, r_rxzx_y1, r_rxzx_x1, r_rxzx_y2, r_rxzx_x2, euler_rxzx]
  refine ⟨by linear_combination s_j ^ 2 * hk, ?_, ?_, ?_, ?_, ?_, ?_⟩ <;> ring

theorem C19_euler_from_matrix_rxzy (c_i s_i c_j s_j c_k s_k sq : K) (hi : c_i ^ 2 + s_i ^ 2 = 1) (hj : c_j ^ 2 + s_j ^ 2 = 1) (hk : c_k ^ 2 + s_k ^ 2 = 1) :
    r_rxzy_rad (euler_rxzy c_i s_i c_j s_j c_k s_k) = c_j ^ 2 ∧
    r_rxzy_y0 (euler_rxzy c_i s_i c_j s_j c_k s_k) sq = c_j * s_i ∧
    r_rxzy_x0 (euler_rxzy c_i s_i c_j s_j c_k s_k) sq = c_j * c_i ∧
    r_rxzy_y1 (euler_rxzy c_i s_i c_j s_j c_k s_k) sq = s_j ∧
    r_rxzy_x1 (euler_rxzy c_i s_i c_j s_j c_k s_k) sq = sq ∧
    r_rxzy_y2 (euler_rxzy c_i s_i c_j s_j c_k s_k) sq = c_j * s_k ∧
    r_rxzy_x2 (euler_rxzy c_i s_i c_j s_j c_k s_k) sq = c_j * c_k := by
  simp only [r_rxzy_rad, r_rxzy_y0, r_rxzy_x0, r_rxzy_y1, r_rxzy_x1, r_rxzy_y2, r_rxzy_x2, euler_rxzy]
  refine ⟨by linear_combination c_j ^ 2 * hi, ?_, ?_, ?_, ?_, ?_, ?_⟩ <;> ring

theorem C19_euler_from_matrix_ryxy (c_i s_i c_j s_j c_k s_k sq : K) (hi : c_i ^ 2 + s_i ^ 2 = 1) (hj : c_j ^ 2 + s_j ^ 2 = 1) (hk : c_k ^ 2 + s_k ^ 2 = 1) :
    r_ryxy_rad (euler_ryxy c_i s_i c_j s_j c_k s_k) = (-s_j) ^ 2 ∧
    r_ryxy_y0 (euler_ryxy c_i s_i c_j s_j c_k s_k) sq = (-s_j) * s_i ∧
    r_ryxy_x0 (euler_ryxy c_i s_i c_j s_j c_k s_k) sq = (-s_j) * c_i ∧
    r_ryxy_y1 (euler_ryxy c_i s_i c_j s_j c_k s_k) sq = -sq ∧
    r_ryxy_x1 (euler_ryxy c_i s_i c_j s_j c_k s_k) sq = c_j ∧
    r_ryxy_y2 (euler_ryxy c_i s_i c_j s_j c_k s_k) sq = (-s_j) * s_k ∧
    r_ryxy_x2 (euler_ryxy c_i s_i c_j s_j c_k s_k) sq = (-s_j) * c_k := by
  obtain ⟨h, rest⟩ := C19_euler_from_matrix_rxzx c_i s_i c_j s_j c_k s_k sq hi hj hk
  rw [euler_rxzx_eq_cyc] at h rest
  exact ⟨(add_comm _ _).trans h, rest⟩

theorem C19_euler_from_matrix_ryxz (c_i s_i c_j s_j c_k s_k sq : K) (hi : c_i ^ 2 + s_i ^ 2 = 1) (hj : c_j ^ 2 + s_j ^ 2 = 1) (hk : c_k ^ 2 + s_k ^ 2 = 1) :
    r_ryxz_rad (euler_ryxz c_i s_i c_j s_j c_k s_k) = c_j ^ 2 ∧
    r_ryxz_y0 (euler_ryxz c_i s_i c_j s_j c_k s_k) sq = c_j * s_i ∧
    r_ryxz_x0 (euler_ryxz c_i s_i c_j s_j c_k s_k) sq = c_j * c_i ∧
    r_ryxz_y1 (euler_ryxz c_i s_i c_j s_j c_k s_k) sq = s_j ∧
    r_ryxz_x1 (euler_ryxz c_i s_i c_j s_j c_k s_k) sq = sq ∧
    r_ryxz_y2 (euler_ryxz c_i s_i c_j s_j c_k s_k) sq = c_j * s_k ∧
    r_ryxz_x2 (euler_ryxz c_i s_i c_j s_j c_k s_k) sq = c_j * c_k := by
  obtain ⟨h, rest⟩ := C19_euler_from_matrix_rxzy c_i s_i c_j s_j c_k s_k sq hi hj hk
  rw [euler_rxzy_eq_cyc] at h rest
  exact ⟨(add_comm _ _).trans h, rest⟩

theorem C19_euler_from_matrix_ryzx (c_i s_i c_j s_j c_k s_k sq : K) (hi : c_i ^ 2 + s_i ^ 2 = 1) (hj : c_j ^ 2 + s_j ^ 2 = 1) (hk : c_k ^ 2 + s_k ^ 2 = 1) :
    r_ryzx_rad (euler_ryzx c_i s_i c_j s_j c_k s_k) = c_j ^ 2 ∧
    r_ryzx_y0 (euler_ryzx c_i s_i c_j s_j c_k s_k) sq = c_j * s_i ∧
    r_ryzx_x0 (euler_ryzx c_i s_i c_j s_j c_k s_k) sq = c_j * c_i ∧
    r_ryzx_y1 (euler_ryzx c_i s_i c_j s_j c_k s_k) sq = s_j ∧
    r_ryzx_x1 (euler_ryzx c_i s_i c_j s_j c_k s_k) sq = sq ∧
    r_ryzx_y2 (euler_ryzx c_i s_i c_j s_j c_k s_k) sq = c_j * s_k ∧
    r_ryzx_x2 (euler_ryzx c_i s_i c_j s_j c_k s_k) sq = c_j * c_k := by
  obtain ⟨h, rest⟩ := C19_euler_from_matrix_rxyz c_i s_i c_j s_j c_k s_k sq hi hj hk
  rw [euler_rxyz_eq_cyc] at h rest
  exact ⟨(add_comm _ _).trans h, rest⟩

theorem C19_euler_from_matrix_ryzy (c_i s_i c_j s_j c_k s_k sq : K) (hi : c_i ^ 2 + s_i ^ 2 = 1) (hj : c_j ^ 2 + s_j ^ 2 = 1) (hk : c_k ^ 2 + s_k ^ 2 = 1) :
    r_ryzy_rad (euler_ryzy c_i s_i c_j s_j c_k s_k) = s_j ^ 2 ∧
    r_ryzy_y0 (euler_ryzy c_i s_i c_j s_j c_k s_k) sq = s_j * s_i ∧
    r_ryzy_x0 (euler_ryzy c_i s_i c_j s_j c_k s_k) sq = s_j * c_i ∧
    r_ryzy_y1 (euler_ryzy c_i s_i c_j s_j c_k s_k) sq = sq ∧
    r_ryzy_x1 (euler_ryzy c_i s_i c_j s_j c_k s_k) sq = c_j ∧
    r_ryzy_y2 (euler_ryzy c_i s_i c_j s_j c_k s_k) sq = s_j * s_k ∧
    r_ryzy_x2 (euler_ryzy c_i s_i c_j s_j c_k s_k) sq = s_j * c_k := by
  obtain ⟨h, rest⟩ := C19_euler_from_matrix_rxyx c_i s_i c_j s_j c_k s_k sq hi hj hk
  rw [euler_rxyx_eq_cyc] at h rest
  exact ⟨(add_comm _ _).trans h, rest⟩

theorem C19_euler_from_matrix_rzxy (c_i s_i c_j s_j c_k s_k sq : K) (hi : c_i ^ 2 + s_i ^ 2 = 1) (hj : c_j ^ 2 + s_j ^ 2 = 1) (hk : c_k ^ 2 + s_k ^ 2 = 1) :
    r_rzxy_rad (euler_rzxy c_i s_i c_j s_j c_k s_k) = c_j ^ 2 ∧
    r_rzxy_y0 (euler_rzxy c_i s_i c_j s_j c_k s_k) sq = c_j * s_i ∧
    r_rzxy_x0 (euler_rzxy c_i s_i c_j s_j c_k s_k) sq = c_j * c_i ∧
    r_rzxy_y1 (euler_rzxy c_i s_i c_j s_j c_k s_k) sq = s_j ∧
    r_rzxy_x1 (euler_rzxy c_i s_i c_j s_j c_k s_k) sq = sq ∧
    r_rzxy_y2 (euler_rzxy c_i s_i c_j s_j c_k s_k) sq = c_j * s_k ∧
    r_rzxy_x2 (euler_rzxy c_i s_i c_j s_j c_k s_k) sq = c_j * c_k := by
  obtain ⟨h, rest⟩ := C19_euler_from_matrix_ryzx c_i s_i c_j s_j c_k s_k sq hi hj hk
  rw [euler_ryzx_eq_cyc] at h rest
  exact ⟨(add_comm _ _).trans h, rest⟩

theorem C19_euler_from_matrix_rzxz (c_i s_i c_j s_j c_k s_k sq : K) (hi : c_i ^ 2 + s_i ^ 2 = 1) (hj : c_j ^ 2 + s_j ^ 2 = 1) (hk : c_k ^ 2 + s_k ^ 2 = 1) :
    r_rzxz_rad (euler_rzxz c_i s_i c_j s_j c_k s_k) = s_j ^ 2 ∧
    r_rzxz_y0 (euler_rzxz c_i s_i c_j s_j c_k s_k) sq = s_j * s_i ∧
    r_rzxz_x0 (euler_rzxz c_i s_i c_j s_j c_k s_k) sq = s_j * c_i ∧
    r_rzxz_y1 (euler_rzxz c_i s_i c_j s_j c_k s_k) sq = sq ∧
    r_rzxz_x1 (euler_rzxz c_i s_i c_j s_j c_k s_k) sq = c_j ∧
    r_rzxz_y2 (euler_rzxz c_i s_i c_j s_j c_k s_k) sq = s_j * s_k ∧
    r_rzxz_x2 (euler_rzxz c_i s_i c_j s_j c_k s_k) sq = s_j * c_k := by
  obtain ⟨h, rest⟩ := C19_euler_from_matrix_ryzy c_i s_i c_j s_j c_k s_k sq hi hj hk
  rw [euler_ryzy_eq_cyc] at h rest
  exact ⟨(add_comm _ _).trans h, rest⟩

theorem C19_euler_from_matrix_rzyx (c_i s_i c_j s_j c_k s_k sq : K) (hi : c_i ^ 2 + s_i ^ 2 = 1) (hj : c_j ^ 2 + s_j ^ 2 = 1) (hk : c_k ^ 2 + s_k ^ 2 = 1) :
    r_rzyx_rad (euler_rzyx c_i s_i c_j s_j c_k s_k) = c_j ^ 2 ∧
    r_rzyx_y0 (euler_rzyx c_i s_i c_j s_j c_k s_k) sq = c_j * s_i ∧
    r_rzyx_x0 (euler_rzyx c_i s_i c_j s_j c_k s_k) sq = c_j * c_i ∧
    r_rzyx_y1 (euler_rzyx c_i s_i c_j s_j c_k s_k) sq = s_j ∧
    r_rzyx_x1 (euler_rzyx c_i s_i c_j s_j c_k s_k) sq = sq ∧
    r_rzyx_y2 (euler_rzyx c_i s_i c_j s_j c_k s_k) sq = c_j * s_k ∧
    r_rzyx_x2 (euler_rzyx c_i s_i c_j s_j c_k s_k) sq = c_j * c_k := by
  obtain ⟨h, rest⟩ := C19_euler_from_matrix_ryxz c_i s_i c_j s_j c_k s_k sq hi hj hk
  rw [euler_ryxz_eq_cyc] at h rest
  exact ⟨(add_comm _ _).trans h, rest⟩

theorem C19_euler_from_matrix_rzyz (c_i s_i c_j s_j c_k s_k sq : K) (hi : c_i ^ 2 + s_i ^ 2 = 1) (hj : c_j ^ 2 + s_j ^ 2 = 1) (hk : c_k ^ 2 + s_k ^ 2 = 1) :
    r_rzyz_rad (euler_rzyz c_i s_i c_j s_j c_k s_k) = (-s_j) ^ 2 ∧
    r_rzyz_y0 (euler_rzyz c_i s_i c_j s_j c_k s_k) sq = (-s_j) * s_i ∧
    r_rzyz_x0 (euler_rzyz c_i s_i c_j s_j c_k s_k) sq = (-s_j) * c_i ∧
    r_rzyz_y1 (euler_rzyz c_i s_i c_j s_j c_k s_k) sq = -sq ∧
    r_rzyz_x1 (euler_rzyz c_i s_i c_j s_j c_k s_k) sq = c_j ∧
    r_rzyz_y2 (euler_rzyz c_i s_i c_j s_j c_k s_k) sq = (-s_j) * s_k ∧
    r_rzyz_x2 (euler_rzyz c_i s_i c_j s_j c_k s_k) sq = (-s_j) * c_k := by
  obtain ⟨h, rest⟩ := C19_euler_from_matrix_ryxy c_i s_i c_j s_j c_k s_k sq hi hj hk
  rw [euler_ryxy_eq_cyc] at h rest
  exact ⟨(add_comm _ _).trans h, rest⟩

theorem C19_euler_from_matrix_sxyx (c_i s_i c_j s_j c_k s_k sq : K) (hi : c_i ^ 2 + s_i ^ 2 = 1) (hj : c_j ^ 2 + s_j ^ 2 = 1) (hk : c_k ^ 2 + s_k ^ 2 = 1) :
    r_sxyx_rad (euler_sxyx c_i s_i c_j s_j c_k s_k) = s_j ^ 2 ∧
    r_sxyx_y0 (euler_sxyx c_i s_i c_j s_j c_k s_k) sq = s_j * s_i ∧
    r_sxyx_x0 (euler_sxyx c_i s_i c_j s_j c_k s_k) sq = s_j * c_i ∧
    r_sxyx_y1 (euler_sxyx c_i s_i c_j s_j c_k s_k) sq = sq ∧
    r_sxyx_x1 (euler_sxyx c_i s_i c_j s_j c_k s_k) sq = c_j ∧
    r_sxyx_y2 (euler_sxyx c_i s_i c_j s_j c_k s_k) sq = s_j * s_k ∧
    r_sxyx_x2 (euler_sxyx c_i s_i c_j s_j c_k s_k) sq = s_j * c_k := by
  obtain ⟨h, hy0, hx0, hy1, hx1, hy2, hx2⟩ := C19_euler_from_matrix_rxyx c_k s_k c_j s_j c_i s_i sq hk hj hi
  simp only [← euler_sxyx_eq] at h hy0 hx0 hy1 hx1 hy2 hx2
  exact ⟨h, hy2, hx2, hy1, hx1, hy0, hx0⟩

theorem C19_euler_from_matrix_sxyz (c_i s_i c_j s_j c_k s_k sq : K) (hi : c_i ^ 2 + s_i ^ 2 = 1) (hj : c_j ^ 2 + s_j ^ 2 = 1) (hk : c_k ^ 2 + s_k ^ 2 = 1) :
    r_sxyz_rad (euler_sxyz c_i s_i c_j s_j c_k s_k) = c_j ^ 2 ∧
    r_sxyz_y0 (euler_sxyz c_i s_i c_j s_j c_k s_k) sq = c_j * s_i ∧
    r_sxyz_x0 (euler_sxyz c_i s_i c_j s_j c_k s_k) sq = c_j * c_i ∧
    r_sxyz_y1 (euler_sxyz c_i s_i c_j s_j c_k s_k) sq = s_j ∧
    r_sxyz_x1 (euler_sxyz c_i s_i c_j s_j c_k s_k) sq = sq ∧
    r_sxyz_y2 (euler_sxyz c_i s_i c_j s_j c_k s_k) sq = c_j * s_k ∧
    r_sxyz_x2 (euler_sxyz c_i s_i c_j s_j c_k s_k) sq = c_j * c_k := by
  obtain ⟨h, hy0, hx0, hy1, hx1, hy2, hx2⟩ := C19_euler_from_matrix_rzyx c_k s_k c_j s_j c_i s_i sq hk hj hi
  simp only [← euler_sxyz_eq] at h hy0 hx0 hy1 hx1 hy2 hx2
  exact ⟨h, hy2, hx2, hy1, hx1, hy0, hx0⟩

theorem C19_euler_from_matrix_sxzx (c_i s_i c_j s_j c_k s_k sq : K) (hi : c_i ^ 2 + s_i ^ 2 = 1) (hj : c_j ^ 2 + s_j ^ 2 = 1) (hk : c_k ^ 2 + s_k ^ 2 = 1) :
    r_sxzx_rad (euler_sxzx c_i s_i c_j s_j c_k s_k) = (-s_j) ^ 2 ∧
    r_sxzx_y0 (euler_sxzx c_i s_i c_j s_j c_k s_k) sq = (-s_j) * s_i ∧
    r_sxzx_x0 (euler_sxzx c_i s_i c_j s_j c_k s_k) sq = (-s_j) * c_i ∧
    r_sxzx_y1 (euler_sxzx c_i s_i c_j s_j c_k s_k) sq = -sq ∧
    r_sxzx_x1 (euler_sxzx c_i s_i c_j s_j c_k s_k) sq = c_j ∧
    r_sxzx_y2 (euler_sxzx c_i s_i c_j s_j c_k s_k) sq = (-s_j) * s_k ∧
    r_sxzx_x2 (euler_sxzx c_i s_i c_j s_j c_k s_k) sq = (-s_j) * c_k := by
  obtain ⟨h, hy0, hx0, hy1, hx1, hy2, hx2⟩ := C19_euler_from_matrix_rxzx c_k s_k c_j s_j c_i s_i sq hk hj hi
  simp only [← euler_sxzx_eq] at h hy0 hx0 hy1 hx1 hy2 hx2
  exact ⟨h, hy2, hx2, hy1, hx1, hy0, hx0⟩

theorem C19_euler_from_matrix_sxzy (c_i s_i c_j s_j c_k s_k sq : K) (hi : c_i ^ 2 + s_i ^ 2 = 1) (hj : c_j ^ 2 + s_j ^ 2 = 1) (hk : c_k ^ 2 + s_k ^ 2 = 1) :
    r_sxzy_rad (euler_sxzy c_i s_i c_j s_j c_k s_k) = c_j ^ 2 ∧
    r_sxzy_y0 (euler_sxzy c_i s_i c_j s_j c_k s_k) sq = c_j * s_i ∧
    r_sxzy_x0 (euler_sxzy c_i s_i c_j s_j c_k s_k) sq = c_j * c_i ∧
    r_sxzy_y1 (euler_sxzy c_i s_i c_j s_j c_k s_k) sq = s_j ∧
    r_sxzy_x1 (euler_sxzy c_i s_i c_j s_j c_k s_k) sq = sq ∧
    r_sxzy_y2 (euler_sxzy c_i s_i c_j s_j c_k s_k) sq = c_j * s_k ∧
    r_sxzy_x2 (euler_sxzy c_i s_i c_j s_j c_k s_k) sq = c_j * c_k := by
  obtain ⟨h, hy0, hx0, hy1, hx1, hy2, hx2⟩ := C19_euler_from_matrix_ryzx c_k s_k c_j s_j c_i s_i sq hk hj hi
  simp only [← euler_sxzy_eq] at h hy0 hx0 hy1 hx1 hy2 hx2
  exact ⟨h, hy2, hx2, hy1, hx1, hy0, hx0⟩

theorem C19_euler_from_matrix_syxy (c_i s_i c_j s_j c_k s_k sq : K) (hi : c_i ^ 2 + s_i ^ 2 = 1) (hj : c_j ^ 2 + s_j ^ 2 = 1) (hk : c_k ^ 2 + s_k ^ 2 = 1) :
    r_syxy_rad (euler_syxy c_i s_i c_j s_j c_k s_k) = (-s_j) ^ 2 ∧
    r_syxy_y0 (euler_syxy c_i s_i c_j s_j c_k s_k) sq = (-s_j) * s_i ∧
    r_syxy_x0 (euler_syxy c_i s_i c_j s_j c_k s_k) sq = (-s_j) * c_i ∧
    r_syxy_y1 (euler_syxy c_i s_i c_j s_j c_k s_k) sq = -sq ∧
    r_syxy_x1 (euler_syxy c_i s_i c_j s_j c_k s_k) sq = c_j ∧
    r_syxy_y2 (euler_syxy c_i s_i c_j s_j c_k s_k) sq = (-s_j) * s_k ∧
    r_syxy_x2 (euler_syxy c_i s_i c_j s_j c_k s_k) sq = (-s_j) * c_k := by
  obtain ⟨h, hy0, hx0, hy1, hx1, hy2, hx2⟩ := C19_euler_from_matrix_ryxy c_k s_k c_j s_j c_i s_i sq hk hj hi
  simp only [← euler_syxy_eq] at h hy0 hx0 hy1 hx1 hy2 hx2
  exact ⟨h, hy2, hx2, hy1, hx1, hy0, hx0⟩

theorem C19_euler_from_matrix_syxz (c_i s_i c_j s_j c_k s_k sq : K) (hi : c_i ^ 2 + s_i ^ 2 = 1) (hj : c_j ^ 2 + s_j ^ 2 = 1) (hk : c_k ^ 2 + s_k ^ 2 = 1) :
    r_syxz_rad (euler_syxz c_i s_i c_j s_j c_k s_k) = c_j ^ 2 ∧
    r_syxz_y0 (euler_syxz c_i s_i c_j s_j c_k s_k) sq = c_j * s_i ∧
    r_syxz_x0 (euler_syxz c_i s_i c_j s_j c_k s_k) sq = c_j * c_i ∧
    r_syxz_y1 (euler_syxz c_i s_i c_j s_j c_k s_k) sq = s_j ∧
    r_syxz_x1 (euler_syxz c_i s_i c_j s_j c_k s_k) sq = sq ∧
    r_syxz_y2 (euler_syxz c_i s_i c_j s_j c_k s_k) sq = c_j * s_k ∧
    r_syxz_x2 (euler_syxz c_i s_i c_j s_j c_k s_k) sq = c_j * c_k := by
  obtain ⟨h, hy0, hx0, hy1, hx1, hy2, hx2⟩ := C19_euler_from_matrix_rzxy c_k s_k c_j s_j c_i s_i sq hk hj hi
  simp only [← euler_syxz_eq] at h hy0 hx0 hy1 hx1 hy2 hx2
  exact ⟨h, hy2, hx2, hy1, hx1, hy0, hx0⟩

theorem C19_euler_from_matrix_syzx (c_i s_i c_j s_j c_k s_k sq : K) (hi : c_i ^ 2 + s_i ^ 2 = 1) (hj : c_j ^ 2 + s_j ^ 2 = 1) (hk : c_k ^ 2 + s_k ^ 2 = 1) :
    r_syzx_rad (euler_syzx c_i s_i c_j s_j c_k s_k) = c_j ^ 2 ∧
    r_syzx_y0 (euler_syzx c_i s_i c_j s_j c_k s_k) sq = c_j * s_i ∧
    r_syzx_x0 (euler_syzx c_i s_i c_j s_j c_k s_k) sq = c_j * c_i ∧
    r_syzx_y1 (euler_syzx c_i s_i c_j s_j c_k s_k) sq = s_j ∧
    r_syzx_x1 (euler_syzx c_i s_i c_j s_j c_k s_k) sq = sq ∧
    r_syzx_y2 (euler_syzx c_i s_i c_j s_j c_k s_k) sq = c_j * s_k ∧
    r_syzx_x2 (euler_syzx c_i s_i c_j s_j c_k s_k) sq = c_j * c_k := by
  obtain ⟨h, hy0, hx0, hy1, hx1, hy2, hx2⟩ := C19_euler_from_matrix_rxzy c_k s_k c_j s_j c_i s_i sq hk hj hi
  simp only [← euler_syzx_eq] at h hy0 hx0 hy1 hx1 hy2 hx2
  exact ⟨h, hy2, hx2, hy1, hx1, hy0, hx0⟩

theorem C19_euler_from_matrix_syzy (c_i s_i c_j s_j c_k s_k sq : K) (hi : c_i ^ 2 + s_i ^ 2 = 1) (hj : c_j ^ 2 + s_j ^ 2 = 1) (hk : c_k ^ 2 + s_k ^ 2 = 1) :
    r_syzy_rad (euler_syzy c_i s_i c_j s_j c_k s_k) = s_j ^ 2 ∧
    r_syzy_y0 (euler_syzy c_i s_i c_j s_j c_k s_k) sq = s_j * s_i ∧
    r_syzy_x0 (euler_syzy c_i s_i c_j s_j c_k s_k) sq = s_j * c_i ∧
    r_syzy_y1 (euler_syzy c_i s_i c_j s_j c_k s_k) sq = sq ∧
    r_syzy_x1 (euler_syzy c_i s_i c_j s_j c_k s_k) sq = c_j ∧
    r_syzy_y2 (euler_syzy c_i s_i c_j s_j c_k s_k) sq = s_j * s_k ∧
    r_syzy_x2 (euler_syzy c_i s_i c_j s_j c_k s_k) sq = s_j * c_k := by
  obtain ⟨h, hy0, hx0, hy1, hx1, hy2, hx2⟩ := C19_euler_from_matrix_ryzy c_k s_k c_j s_j c_i s_i sq hk hj hi
  simp only [← euler_syzy_eq] at h hy0 hx0 hy1 hx1 hy2 hx2
  exact ⟨h, hy2, hx2, hy1, hx1, hy0, hx0⟩

theorem C19_euler_from_matrix_szxy (c_i s_i c_j s_j c_k s_k sq : K) (hi : c_i ^ 2 + s_i ^ 2 = 1) (hj : c_j ^ 2 + s_j ^ 2 = 1) (hk : c_k ^ 2 + s_k ^ 2 = 1) :
    r_szxy_rad (euler_szxy c_i s_i c_j s_j c_k s_k) = c_j ^ 2 ∧
    r_szxy_y0 (euler_szxy c_i s_i c_j s_j c_k s_k) sq = c_j * s_i ∧
    r_szxy_x0 (euler_szxy c_i s_i c_j s_j c_k s_k) sq = c_j * c_i ∧
    r_szxy_y1 (euler_szxy c_i s_i c_j s_j c_k s_k) sq = s_j ∧
    r_szxy_x1 (euler_szxy c_i s_i c_j s_j c_k s_k) sq = sq ∧
    r_szxy_y2 (euler_szxy c_i s_i c_j s_j c_k s_k) sq = c_j * s_k ∧
    r_szxy_x2 (euler_szxy c_i s_i c_j s_j c_k s_k) sq = c_j * c_k := by
  obtain ⟨h, hy0, hx0, hy1, hx1, hy2, hx2⟩ := C19_euler_from_matrix_ryxz c_k s_k c_j s_j c_i s_i sq hk hj hi
  simp only [← euler_szxy_eq] at h hy0 hx0 hy1 hx1 hy2 hx2
  exact ⟨h, hy2, hx2, hy1, hx1, hy0, hx0⟩

theorem C19_euler_from_matrix_szxz (c_i s_i c_j s_j c_k s_k sq : K) (hi : c_i ^ 2 + s_i ^ 2 = 1) (hj : c_j ^ 2 + s_j ^ 2 = 1) (hk : c_k ^ 2 + s_k ^ 2 = 1) :
    r_szxz_rad (euler_szxz c_i s_i c_j s_j c_k s_k) = s_j ^ 2 ∧
    r_szxz_y0 (euler_szxz c_i s_i c_j s_j c_k s_k) sq = s_j * s_i ∧
    r_szxz_x0 (euler_szxz c_i s_i c_j s_j c_k s_k) sq = s_j * c_i ∧
    r_szxz_y1 (euler_szxz c_i s_i c_j s_j c_k s_k) sq = sq ∧
    r_szxz_x1 (euler_szxz c_i s_i c_j s_j c_k s_k) sq = c_j ∧
    r_szxz_y2 (euler_szxz c_i s_i c_j s_j c_k s_k) sq = s_j * s_k ∧
    r_szxz_x2 (euler_szxz c_i s_i c_j s_j c_k s_k) sq = s_j * c_k := by
  obtain ⟨h, hy0, hx0, hy1, hx1, hy2, hx2⟩ := C19_euler_from_matrix_rzxz c_k s_k c_j s_j c_i s_i sq hk hj hi
  simp only [← euler_szxz_eq] at h hy0 hx0 hy1 hx1 hy2 hx2
  exact ⟨h, hy2, hx2, hy1, hx1, hy0, hx0⟩

theorem C19_euler_from_matrix_szyx (c_i s_i c_j s_j c_k s_k sq : K) (hi : c_i ^ 2 + s_i ^ 2 = 1) (hj : c_j ^ 2 + s_j ^ 2 = 1) (hk : c_k ^ 2 + s_k ^ 2 = 1) :
    r_szyx_rad (euler_szyx c_i s_i c_j s_j c_k s_k) = c_j ^ 2 ∧
    r_szyx_y0 (euler_szyx c_i s_i c_j s_j c_k s_k) sq = c_j * s_i ∧
    r_szyx_x0 (euler_szyx c_i s_i c_j s_j c_k s_k) sq = c_j * c_i ∧
    r_szyx_y1 (euler_szyx c_i s_i c_j s_j c_k s_k) sq = s_j ∧
    r_szyx_x1 (euler_szyx c_i s_i c_j s_j c_k s_k) sq = sq ∧
    r_szyx_y2 (euler_szyx c_i s_i c_j s_j c_k s_k) sq = c_j * s_k ∧
    r_szyx_x2 (euler_szyx c_i s_i c_j s_j c_k s_k) sq = c_j * c_k := by
  obtain ⟨h, hy0, hx0, hy1, hx1, hy2, hx2⟩ := C19_euler_from_matrix_rxyz c_k s_k c_j s_j c_i s_i sq hk hj hi
  simp only [← euler_szyx_eq] at h hy0 hx0 hy1 hx1 hy2 hx2
  exact ⟨h, hy2, hx2, hy1, hx1, hy0, hx0⟩

theorem C19_euler_from_matrix_szyz (c_i s_i c_j s_j c_k s_k sq : K) (hi : c_i ^ 2 + s_i ^ 2 = 1) (hj : c_j ^ 2 + s_j ^ 2 = 1) (hk : c_k ^ 2 + s_k ^ 2 = 1) :
    r_szyz_rad (euler_szyz c_i s_i c_j s_j c_k s_k) = (-s_j) ^ 2 ∧
    r_szyz_y0 (euler_szyz c_i s_i c_j s_j c_k s_k) sq = (-s_j) * s_i ∧
    r_szyz_x0 (euler_szyz c_i s_i c_j s_j c_k s_k) sq = (-s_j) * c_i ∧
    r_szyz_y1 (euler_szyz c_i s_i c_j s_j c_k s_k) sq = -sq ∧
    r_szyz_x1 (euler_szyz c_i s_i c_j s_j c_k s_k) sq = c_j ∧
    r_szyz_y2 (euler_szyz c_i s_i c_j s_j c_k s_k) sq = (-s_j) * s_k ∧
    r_szyz_x2 (euler_szyz c_i s_i c_j s_j c_k s_k) sq = (-s_j) * c_k := by
  obtain ⟨h, hy0, hx0, hy1, hx1, hy2, hx2⟩ := C19_euler_from_matrix_rzyz c_k s_k c_j s_j c_i s_i sq hk hj hi
  simp only [← euler_szyz_eq] at h hy0 hx0 hy1 hx1 hy2 hx2
  exact ⟨h, hy2, hx2, hy1, hx1, hy0, hx0⟩

theorem C19_euler_from_matrix_gimbal_rxyx (c_i s_i c_j s_j c_k s_k : K) (hi : c_i ^ 2 + s_i ^ 2 = 1) (hj : c_j ^ 2 + s_j ^ 2 = 1) (hk : c_k ^ 2 + s_k ^ 2 = 1) (hg : s_j = 0) :
    (g_rxyx_x2 (euler_rxyx c_i s_i c_j s_j c_k s_k) 0) ^ 2 + (g_rxyx_y2 (euler_rxyx c_i s_i c_j s_j c_k s_k) 0) ^ 2 = 1 ∧
    euler_rxyx 1 0 c_j s_j (g_rxyx_x2 (euler_rxyx c_i s_i c_j s_j c_k s_k) 0) (g_rxyx_y2 (euler_rxyx c_i s_i c_j s_j c_k s_k) 0) = euler_rxyx c_i s_i c_j s_j c_k s_k := by
  subst hg
  simp only [g_rxyx_x2, g_rxyx_y2, euler_rxyx]
  refine ⟨by linear_combination (c_j ^ 2 * c_k ^ 2 + c_j ^ 2 * s_k ^ 2) * hi + (-c_i ^ 2 * c_k ^ 2 - c_i ^ 2 * s_k ^ 2 + c_k ^ 2 + s_k ^ 2) * hj + hk, ?_⟩
  apply M3.ext'
  · ring1
  · ring1
  · ring1
  · ring1
  · ring1
  · ring1
  · ring1
  · linear_combination c_k * s_i * hj
  · linear_combination (-s_i * s_k) * hj

theorem C19_euler_from_matrix_gimbal_rxyz (c_i s_i c_j s_j c_k s_k : K) (hi : c_i ^ 2 + s_i ^ 2 = 1) (hj : c_j ^ 2 + s_j ^ 2 = 1) (hk : c_k ^ 2 + s_k ^ 2 = 1) (hg : c_j = 0) :
    (g_rxyz_x2 (euler_rxyz c_i s_i c_j s_j c_k s_k) 0) ^ 2 + (g_rxyz_y2 (euler_rxyz c_i s_i c_j s_j c_k s_k) 0) ^ 2 = 1 ∧
    euler_rxyz 1 0 c_j s_j (g_rxyz_x2 (euler_rxyz c_i s_i c_j s_j c_k s_k) 0) (g_rxyz_y2 (euler_rxyz c_i s_i c_j s_j c_k s_k) 0) = euler_rxyz c_i s_i c_j s_j c_k s_k := by
  subst hg
  simp only [g_rxyz_x2, g_rxyz_y2, euler_rxyz]
  refine ⟨by linear_combination (c_k ^ 2 * s_j ^ 2 + s_j ^ 2 * s_k ^ 2) * hi + (-c_i ^ 2 * c_k ^ 2 - c_i ^ 2 * s_k ^ 2 + c_k ^ 2 + s_k ^ 2) * hj + hk, ?_⟩
  apply M3.ext'
  · ring1
  · ring1
  · ring1
  · ring1
  · ring1
  · ring1
  · linear_combination s_i * s_k * hj
  · linear_combination c_k * s_i * hj
  · ring1

theorem C19_euler_from_matrix_gimbal_rxzx (c_i s_i c_j s_j c_k s_k : K) (hi : c_i ^ 2 + s_i ^ 2 = 1) (hj : c_j ^ 2 + s_j ^ 2 = 1) (hk : c_k ^ 2 + s_k ^ 2 = 1) (hg : s_j = 0) :
    (g_rxzx_x2 (euler_rxzx c_i s_i c_j s_j c_k s_k) 0) ^ 2 + (g_rxzx_y2 (euler_rxzx c_i s_i c_j s_j c_k s_k) 0) ^ 2 = 1 ∧
    euler_rxzx 1 0 c_j s_j (g_rxzx_x2 (euler_rxzx c_i s_i c_j s_j c_k s_k) 0) (g_rxzx_y2 (euler_rxzx c_i s_i c_j s_j c_k s_k) 0) = euler_rxzx c_i s_i c_j s_j c_k s_k := by
  subst hg
  simp only [g_rxzx_x2, g_rxzx_y2, euler_rxzx]
  refine ⟨by linear_combination (c_j ^ 2 * c_k ^ 2 + c_j ^ 2 * s_k ^ 2) * hi + (-c_i ^ 2 * c_k ^ 2 - c_i ^ 2 * s_k ^ 2 + c_k ^ 2 + s_k ^ 2) * hj + hk, ?_⟩
  apply M3.ext'
  · ring1
  · ring1
  · ring1
  · ring1
  · linear_combination (-s_i * s_k) * hj
  · linear_combination (-c_k * s_i) * hj
  · ring1
  · ring1
  · ring1

theorem C19_euler_from_matrix_gimbal_rxzy (c_i s_i c_j s_j c_k s_k : K) (hi : c_i ^ 2 + s_i ^ 2 = 1) (hj : c_j ^ 2 + s_j ^ 2 = 1) (hk : c_k ^ 2 + s_k ^ 2 = 1) (hg : c_j = 0) :
    (g_rxzy_x2 (euler_rxzy c_i s_i c_j s_j c_k s_k) 0) ^ 2 + (g_rxzy_y2 (euler_rxzy c_i s_i c_j s_j c_k s_k) 0) ^ 2 = 1 ∧
    euler_rxzy 1 0 c_j s_j (g_rxzy_x2 (euler_rxzy c_i s_i c_j s_j c_k s_k) 0) (g_rxzy_y2 (euler_rxzy c_i s_i c_j s_j c_k s_k) 0) = euler_rxzy c_i s_i c_j s_j c_k s_k := by
  subst hg
  simp only [g_rxzy_x2, g_rxzy_y2, euler_rxzy]
  refine ⟨by linear_combination (c_k ^ 2 * s_j ^ 2 + s_j ^ 2 * s_k ^ 2) * hi + (-c_i ^ 2 * c_k ^ 2 - c_i ^ 2 * s_k ^ 2 + c_k ^ 2 + s_k ^ 2) * hj + hk, ?_⟩
  apply M3.ext'
  · ring1
  · ring1
  · ring1
  · linear_combination s_i * s_k * hj
  · ring1
  · linear_combination (-c_k * s_i) * hj
  · ring1
  · ring1
  · ring1

theorem C19_euler_from_matrix_gimbal_ryxy (c_i s_i c_j s_j c_k s_k : K) (hi : c_i ^ 2 + s_i ^ 2 = 1) (hj : c_j ^ 2 + s_j ^ 2 = 1) (hk : c_k ^ 2 + s_k ^ 2 = 1) (hg : s_j = 0) :
    (g_ryxy_x2 (euler_ryxy c_i s_i c_j s_j c_k s_k) 0) ^ 2 + (g_ryxy_y2 (euler_ryxy c_i s_i c_j s_j c_k s_k) 0) ^ 2 = 1 ∧
    euler_ryxy 1 0 c_j s_j (g_ryxy_x2 (euler_ryxy c_i s_i c_j s_j c_k s_k) 0) (g_ryxy_y2 (euler_ryxy c_i s_i c_j s_j c_k s_k) 0) = euler_ryxy c_i s_i c_j s_j c_k s_k := by
  have h := C19_euler_from_matrix_gimbal_rxzx c_i s_i c_j s_j c_k s_k hi hj hk hg
  simp only [euler_rxzx_eq_cyc] at h
  exact ⟨h.1, M3.cyc_injective h.2⟩

theorem C19_euler_from_matrix_gimbal_ryxz (c_i s_i c_j s_j c_k s_k : K) (hi : c_i ^ 2 + s_i ^ 2 = 1) (hj : c_j ^ 2 + s_j ^ 2 = 1) (hk : c_k ^ 2 + s_k ^ 2 = 1) (hg : c_j = 0) :
    (g_ryxz_x2 (euler_ryxz c_i s_i c_j s_j c_k s_k) 0) ^ 2 + (g_ryxz_y2 (euler_ryxz c_i s_i c_j s_j c_k s_k) 0) ^ 2 = 1 ∧
    euler_ryxz 1 0 c_j s_j (g_ryxz_x2 (euler_ryxz c_i s_i c_j s_j c_k s_k) 0) (g_ryxz_y2 (euler_ryxz c_i s_i c_j s_j c_k s_k) 0) = euler_ryxz c_i s_i c_j s_j c_k s_k := by
  have h := C19_euler_from_matrix_gimbal_rxzy c_i s_i c_j s_j c_k s_k hi hj hk hg
  simp only [euler_rxzy_eq_cyc] at h
  exact ⟨h.1, M3.cyc_injective h.2⟩

theorem C19_euler_from_matrix_gimbal_ryzx (c_i s_i c_j s_j c_k s_k : K) (hi : c_i ^ 2 + s_i ^ 2 = 1) (hj : c_j ^ 2 + s_j ^ 2 = 1) (hk : c_k ^ 2 + s_k ^ 2 = 1) (hg : c_j = 0) :
    (g_ryzx_x2 (euler_ryzx c_i s_i c_j s_j c_k s_k) 0) ^ 2 + (g_ryzx_y2 (euler_ryzx c_i s_i c_j s_j c_k s_k) 0) ^ 2 = 1 ∧
    euler_ryzx 1 0 c_j s_j (g_ryzx_x2 (euler_ryzx c_i s_i c_j s_j c_k s_k) 0) (g_ryzx_y2 (euler_ryzx c_i s_i c_j s_j c_k s_k) 0) = euler_ryzx c_i s_i c_j s_j c_k s_k := by
  have h := C19_euler_from_matrix_gimbal_rxyz c_i s_i c_j s_j c_k s_k hi hj hk hg
  simp only [euler_rxyz_eq_cyc] at h
  exact ⟨h.1, M3.cyc_injective h.2⟩

theorem C19_euler_from_matrix_gimbal_ryzy (c_i s_i c_j s_j c_k s_k : K) (hi : c_i ^ 2 + s_i ^ 2 = 1) (hj : c_j ^ 2 + s_j ^ 2 = 1) (hk : c_k ^ 2 + s_k ^ 2 = 1) (hg : s_j = 0) :
    (g_ryzy_x2 (euler_ryzy c_i s_i c_j s_j c_k s_k) 0) ^ 2 + (g_ryzy_y2 (euler_ryzy c_i s_i c_j s_j c_k s_k) 0) ^ 2 = 1 ∧
    euler_ryzy 1 0 c_j s_j (g_ryzy_x2 (euler_ryzy c_i s_i c_j s_j c_k s_k) 0) (g_ryzy_y2 (euler_ryzy c_i s_i c_j s_j c_k s_k) 0) = euler_ryzy c_i s_i c_j s_j c_k s_k := by
  have h := C19_euler_from_matrix_gimbal_rxyx c_i s_i c_j s_j c_k s_k hi hj hk hg
  simp only [euler_rxyx_eq_cyc] at h
  exact ⟨h.1, M3.cyc_injective h.2⟩

theorem C19_euler_from_matrix_gimbal_rzxy (c_i s_i c_j s_j c_k s_k : K) (hi : c_i ^ 2 + s_i ^ 2 = 1) (hj : c_j ^ 2 + s_j ^ 2 = 1) (hk : c_k ^ 2 + s_k ^ 2 = 1) (hg : c_j = 0) :
    (g_rzxy_x2 (euler_rzxy c_i s_i c_j s_j c_k s_k) 0) ^ 2 + (g_rzxy_y2 (euler_rzxy c_i s_i c_j s_j c_k s_k) 0) ^ 2 = 1 ∧
    euler_rzxy 1 0 c_j s_j (g_rzxy_x2 (euler_rzxy c_i s_i c_j s_j c_k s_k) 0) (g_rzxy_y2 (euler_rzxy c_i s_i c_j s_j c_k s_k) 0) = euler_rzxy c_i s_i c_j s_j c_k s_k := by
  have h := C19_euler_from_matrix_gimbal_ryzx c_i s_i c_j s_j c_k s_k hi hj hk hg
  simp only [euler_ryzx_eq_cyc] at h
  exact ⟨h.1, M3.cyc_injective h.2⟩

theorem C19_euler_from_matrix_gimbal_rzxz (c_i s_i c_j s_j c_k s_k : K) (hi : c_i ^ 2 + s_i ^ 2 = 1) (hj : c_j ^ 2 + s_j ^ 2 = 1) (hk : c_k ^ 2 + s_k ^ 2 = 1) (hg : s_j = 0) :
    (g_rzxz_x2 (euler_rzxz c_i s_i c_j s_j c_k s_k) 0) ^ 2 + (g_rzxz_y2 (euler_rzxz c_i s_i c_j s_j c_k s_k) 0) ^ 2 = 1 ∧
    euler_rzxz 1 0 c_j s_j (g_rzxz_x2 (euler_rzxz c_i s_i c_j s_j c_k s_k) 0) (g_rzxz_y2 (euler_rzxz c_i s_i c_j s_j c_k s_k) 0) = euler_rzxz c_i s_i c_j s_j c_k s_k := by
  have h := C19_euler_from_matrix_gimbal_ryzy c_i s_i c_j s_j c_k s_k hi hj hk hg
  simp only [euler_ryzy_eq_cyc] at h
  exact ⟨h.1, M3.cyc_injective h.2⟩

theorem C19_euler_from_matrix_gimbal_rzyx (c_i s_i c_j s_j c_k s_k : K) (hi : c_i ^ 2 + s_i ^ 2 = 1) (hj : c_j ^ 2 + s_j ^ 2 = 1) (hk : c_k ^ 2 + s_k ^ 2 = 1) (hg : c_j = 0) :
    (g_rzyx_x2 (euler_rzyx c_i s_i c_j s_j c_k s_k) 0) ^ 2 + (g_rzyx_y2 (euler_rzyx c_i s_i c_j s_j c_k s_k) 0) ^ 2 = 1 ∧
    euler_rzyx 1 0 c_j s_j (g_rzyx_x2 (euler_rzyx c_i s_i c_j s_j c_k s_k) 0) (g_rzyx_y2 (euler_rzyx c_i s_i c_j s_j c_k s_k) 0) = euler_rzyx c_i s_i c_j s_j c_k s_k := by
  have h := C19_euler_from_matrix_gimbal_ryxz c_i s_i c_j s_j c_k s_k hi hj hk hg
  simp only [euler_ryxz_eq_cyc] at h
  exact ⟨h.1, M3.cyc_injective h.2⟩

theorem C19_euler_from_matrix_gimbal_rzyz (c_i s_i c_j s_j c_k s_k : K) (hi : c_i ^ 2 + s_i ^ 2 = 1) (hj : c_j ^ 2 + s_j ^ 2 = 1) (hk : c_k ^ 2 + s_k ^ 2 = 1) (hg : s_j = 0) :
    (g_rzyz_x2 (euler_rzyz c_i s_i c_j s_j c_k s_k) 0) ^ 2 + (g_rzyz_y2 (euler_rzyz c_i s_i c_j s_j c_k s_k) 0) ^ 2 = 1 ∧
    euler_rzyz 1 0 c_j s_j (g_rzyz_x2 (euler_rzyz c_i s_i c_j s_j c_k s_k) 0) (g_rzyz_y2 (euler_rzyz c_i s_i c_j s_j c_k s_k) 0) = euler_rzyz c_i s_i c_j s_j c_k s_k := by
  have h := C19_euler_from_matrix_gimbal_ryxy c_i s_i c_j s_j c_k s_k hi hj hk hg
  simp only [euler_ryxy_eq_cyc] at h
  exact ⟨h.1, M3.cyc_injective h.2⟩

theorem C19_euler_from_matrix_gimbal_sxyx (c_i s_i c_j s_j c_k s_k : K) (hi : c_i ^ 2 + s_i ^ 2 = 1) (hj : c_j ^ 2 + s_j ^ 2 = 1) (hk : c_k ^ 2 + s_k ^ 2 = 1) (hg : s_j = 0) :
    (g_sxyx_x0 (euler_sxyx c_i s_i c_j s_j c_k s_k) 0) ^ 2 + (g_sxyx_y0 (euler_sxyx c_i s_i c_j s_j c_k s_k) 0) ^ 2 = 1 ∧
    euler_sxyx (g_sxyx_x0 (euler_sxyx c_i s_i c_j s_j c_k s_k) 0) (g_sxyx_y0 (euler_sxyx c_i s_i c_j s_j c_k s_k) 0) c_j s_j 1 0 = euler_sxyx c_i s_i c_j s_j c_k s_k := by
  have h := C19_euler_from_matrix_gimbal_rxyx c_k s_k c_j s_j c_i s_i hk hj hi hg
  simp only [← euler_sxyx_eq] at h
  exact h

theorem C19_euler_from_matrix_gimbal_sxyz (c_i s_i c_j s_j c_k s_k : K) (hi : c_i ^ 2 + s_i ^ 2 = 1) (hj : c_j ^ 2 + s_j ^ 2 = 1) (hk : c_k ^ 2 + s_k ^ 2 = 1) (hg : c_j = 0) :
    (g_sxyz_x0 (euler_sxyz c_i s_i c_j s_j c_k s_k) 0) ^ 2 + (g_sxyz_y0 (euler_sxyz c_i s_i c_j s_j c_k s_k) 0) ^ 2 = 1 ∧
    euler_sxyz (g_sxyz_x0 (euler_sxyz c_i s_i c_j s_j c_k s_k) 0) (g_sxyz_y0 (euler_sxyz c_i s_i c_j s_j c_k s_k) 0) c_j s_j 1 0 = euler_sxyz c_i s_i c_j s_j c_k s_k := by
  have h := C19_euler_from_matrix_gimbal_rzyx c_k s_k c_j s_j c_i s_i hk hj hi hg
  simp only [← euler_sxyz_eq] at h
  exact h

theorem C19_euler_from_matrix_gimbal_sxzx (c_i s_i c_j s_j c_k s_k : K) (hi : c_i ^ 2 + s_i ^ 2 = 1) (hj : c_j ^ 2 + s_j ^ 2 = 1) (hk : c_k ^ 2 + s_k ^ 2 = 1) (hg : s_j = 0) :
    (g_sxzx_x0 (euler_sxzx c_i s_i c_j s_j c_k s_k) 0) ^ 2 + (g_sxzx_y0 (euler_sxzx c_i s_i c_j s_j c_k s_k) 0) ^ 2 = 1 ∧
    euler_sxzx (g_sxzx_x0 (euler_sxzx c_i s_i c_j s_j c_k s_k) 0) (g_sxzx_y0 (euler_sxzx c_i s_i c_j s_j c_k s_k) 0) c_j s_j 1 0 = euler_sxzx c_i s_i c_j s_j c_k s_k := by
  have h := C19_euler_from_matrix_gimbal_rxzx c_k s_k c_j s_j c_i s_i hk hj hi hg
  simp only [← euler_sxzx_eq] at h
  exact h

theorem C19_euler_from_matrix_gimbal_sxzy (c_i s_i c_j s_j c_k s_k : K) (hi : c_i ^ 2 + s_i ^ 2 = 1) (hj : c_j ^ 2 + s_j ^ 2 = 1) (hk : c_k ^ 2 + s_k ^ 2 = 1) (hg : c_j = 0) :
    (g_sxzy_x0 (euler_sxzy c_i s_i c_j s_j c_k s_k) 0) ^ 2 + (g_sxzy_y0 (euler_sxzy c_i s_i c_j s_j c_k s_k) 0) ^ 2 = 1 ∧
    euler_sxzy (g_sxzy_x0 (euler_sxzy c_i s_i c_j s_j c_k s_k) 0) (g_sxzy_y0 (euler_sxzy c_i s_i c_j s_j c_k s_k) 0) c_j s_j 1 0 = euler_sxzy c_i s_i c_j s_j c_k s_k := by
  have h := C19_euler_from_matrix_gimbal_ryzx c_k s_k c_j s_j c_i s_i hk hj hi hg
  simp only [← euler_sxzy_eq] at h
  exact h

theorem C19_euler_from_matrix_gimbal_syxy (c_i s_i c_j s_j c_k s_k : K) (hi : c_i ^ 2 + s_i ^ 2 = 1) (hj : c_j ^ 2 + s_j ^ 2 = 1) (hk : c_k ^ 2 + s_k ^ 2 = 1) (hg : s_j = 0) :
    (g_syxy_x0 (euler_syxy c_i s_i c_j s_j c_k s_k) 0) ^ 2 + (g_syxy_y0 (euler_syxy c_i s_i c_j s_j c_k s_k) 0) ^ 2 = 1 ∧
    euler_syxy (g_syxy_x0 (euler_syxy c_i s_i c_j s_j c_k s_k) 0) (g_syxy_y0 (euler_syxy c_i s_i c_j s_j c_k s_k) 0) c_j s_j 1 0 = euler_syxy c_i s_i c_j s_j c_k s_k := by
  have h := C19_euler_from_matrix_gimbal_ryxy c_k s_k c_j s_j c_i s_i hk hj hi hg
  simp only [← euler_syxy_eq] at h
  exact h

theorem C19_euler_from_matrix_gimbal_syxz (c_i s_i c_j s_j c_k s_k : K) (hi : c_i ^ 2 + s_i ^ 2 = 1) (hj : c_j ^ 2 + s_j ^ 2 = 1) (hk : c_k ^ 2 + s_k ^ 2 = 1) (hg : c_j = 0) :
    (g_syxz_x0 (euler_syxz c_i s_i c_j s_j c_k s_k) 0) ^ 2 + (g_syxz_y0 (euler_syxz c_i s_i c_j s_j c_k s_k) 0) ^ 2 = 1 ∧
    euler_syxz (g_syxz_x0 (euler_syxz c_i s_i c_j s_j c_k s_k) 0) (g_syxz_y0 (euler_syxz c_i s_i c_j s_j c_k s_k) 0) c_j s_j 1 0 = euler_syxz c_i s_i c_j s_j c_k s_k := by
  have h := C19_euler_from_matrix_gimbal_rzxy c_k s_k c_j s_j c_i s_i hk hj hi hg
  simp only [← euler_syxz_eq] at h
  exact h

theorem C19_euler_from_matrix_gimbal_syzx (c_i s_i c_j s_j c_k s_k : K) (hi : c_i ^ 2 + s_i ^ 2 = 1) (hj : c_j ^ 2 + s_j ^ 2 = 1) (hk : c_k ^ 2 + s_k ^ 2 = 1) (hg : c_j = 0) :
    (g_syzx_x0 (euler_syzx c_i s_i c_j s_j c_k s_k) 0) ^ 2 + (g_syzx_y0 (euler_syzx c_i s_i c_j s_j c_k s_k) 0) ^ 2 = 1 ∧
    euler_syzx (g_syzx_x0 (euler_syzx c_i s_i c_j s_j c_k s_k) 0) (g_syzx_y0 (euler_syzx c_i s_i c_j s_j c_k s_k) 0) c_j s_j 1 0 = euler_syzx c_i s_i c_j s_j c_k s_k := by
  have h := C19_euler_from_matrix_gimbal_rxzy c_k s_k c_j s_j c_i s_i hk hj hi hg
  simp only [← euler_syzx_eq] at h
  exact h

theorem C19_euler_from_matrix_gimbal_syzy (c_i s_i c_j s_j c_k s_k : K) (hi : c_i ^ 2 + s_i ^ 2 = 1) (hj : c_j ^ 2 + s_j ^ 2 = 1) (hk : c_k ^ 2 + s_k ^ 2 = 1) (hg : s_j = 0) :
    (g_syzy_x0 (euler_syzy c_i s_i c_j s_j c_k s_k) 0) ^ 2 + (g_syzy_y0 (euler_syzy c_i s_i c_j s_j c_k s_k) 0) ^ 2 = 1 ∧
    euler_syzy (g_syzy_x0 (euler_syzy c_i s_i c_j s_j c_k s_k) 0) (g_syzy_y0 (euler_syzy c_i s_i c_j s_j c_k s_k) 0) c_j s_j 1 0 = euler_syzy c_i s_i c_j s_j c_k s_k := by
  have h := C19_euler_from_matrix_gimbal_ryzy c_k s_k c_j s_j c_i s_i hk hj hi hg
  simp only [← euler_syzy_eq] at h
  exact h

theorem C19_euler_from_matrix_gimbal_szxy (c_i s_i c_j s_j c_k s_k : K) (hi : c_i ^ 2 + s_i ^ 2 = 1) (hj : c_j ^ 2 + s_j ^ 2 = 1) (hk : c_k ^ 2 + s_k ^ 2 = 1) (hg : c_j = 0) :
    (g_szxy_x0 (euler_szxy c_i s_i c_j s_j c_k s_k) 0) ^ 2 + (g_szxy_y0 (euler_szxy c_i s_i c_j s_j c_k s_k) 0) ^ 2 = 1 ∧
    euler_szxy (g_szxy_x0 (euler_szxy c_i s_i c_j s_j c_k s_k) 0) (g_szxy_y0 (euler_szxy c_i s_i c_j s_j c_k s_k) 0) c_j s_j 1 0 = euler_szxy c_i s_i c_j s_j c_k s_k := by
  have h := C19_euler_from_matrix_gimbal_ryxz c_k s_k c_j s_j c_i s_i hk hj hi hg
  simp only [← euler_szxy_eq] at h
  exact h

theorem C19_euler_from_matrix_gimbal_szxz (c_i s_i c_j s_j c_k s_k : K) (hi : c_i ^ 2 + s_i ^ 2 = 1) (hj : c_j ^ 2 + s_j ^ 2 = 1) (hk : c_k ^ 2 + s_k ^ 2 = 1) (hg : s_j = 0) :
    (g_szxz_x0 (euler_szxz c_i s_i c_j s_j c_k s_k) 0) ^ 2 + (g_szxz_y0 (euler_szxz c_i s_i c_j s_j c_k s_k) 0) ^ 2 = 1 ∧
    euler_szxz (g_szxz_x0 (euler_szxz c_i s_i c_j s_j c_k s_k) 0) (g_szxz_y0 (euler_szxz c_i s_i c_j s_j c_k s_k) 0) c_j s_j 1 0 = euler_szxz c_i s_i c_j s_j c_k s_k := by
  have h := C19_euler_from_matrix_gimbal_rzxz c_k s_k c_j s_j c_i s_i hk hj hi hg
  simp only [← euler_szxz_eq] at h
  exact h

theorem C19_euler_from_matrix_gimbal_szyx (c_i s_i c_j s_j c_k s_k : K) (hi : c_i ^ 2 + s_i ^ 2 = 1) (hj : c_j ^ 2 + s_j ^ 2 = 1) (hk : c_k ^ 2 + s_k ^ 2 = 1) (hg : c_j = 0) :
    (g_szyx_x0 (euler_szyx c_i s_i c_j s_j c_k s_k) 0) ^ 2 + (g_szyx_y0 (euler_szyx c_i s_i c_j s_j c_k s_k) 0) ^ 2 = 1 ∧
    euler_szyx (g_szyx_x0 (euler_szyx c_i s_i c_j s_j c_k s_k) 0) (g_szyx_y0 (euler_szyx c_i s_i c_j s_j c_k s_k) 0) c_j s_j 1 0 = euler_szyx c_i s_i c_j s_j c_k s_k := by
  have h := C19_euler_from_matrix_gimbal_rxyz c_k s_k c_j s_j c_i s_i hk hj hi hg
  simp only [← euler_szyx_eq] at h
  exact h

theorem C19_euler_from_matrix_gimbal_szyz (c_i s_i c_j s_j c_k s_k : K) (hi : c_i ^ 2 + s_i ^ 2 = 1) (hj : c_j ^ 2 + s_j ^ 2 = 1) (hk : c_k ^ 2 + s_k ^ 2 = 1) (hg : s_j = 0) :
    (g_szyz_x0 (euler_szyz c_i s_i c_j s_j c_k s_k) 0) ^ 2 + (g_szyz_y0 (euler_szyz c_i s_i c_j s_j c_k s_k) 0) ^ 2 = 1 ∧
    euler_szyz (g_szyz_x0 (euler_szyz c_i s_i c_j s_j c_k s_k) 0) (g_szyz_y0 (euler_szyz c_i s_i c_j s_j c_k s_k) 0) c_j s_j 1 0 = euler_szyz c_i s_i c_j s_j c_k s_k := by
  have h := C19_euler_from_matrix_gimbal_rzyz c_k s_k c_j s_j c_i s_i hk hj hi hg
  simp only [← euler_szyz_eq] at h
  exact h

/-- (G) the axis table of the source still encodes the 24 conventions -/
theorem C19_axes_table : axes2tuple.length = 24 ∧ nextAxis = [1, 2, 0, 1] := by decide

end TV.C19

namespace TV.Generated.C19Inv
open TV.Mat3 TV.Generated.C19
variable {K : Type} [Field K]

/-! The names under which DESIGN §8 records the seeded changes C19-1 and C19-7. -/

theorem g_rxyx_spec (c_i s_i c_j s_j c_k s_k : K) (hi : c_i ^ 2 + s_i ^ 2 = 1) (hj : c_j ^ 2 + s_j ^ 2 = 1) (hk : c_k ^ 2 + s_k ^ 2 = 1) (hg : s_j = 0) :
    (g_rxyx_x2 (euler_rxyx c_i s_i c_j s_j c_k s_k) 0) ^ 2 + (g_rxyx_y2 (euler_rxyx c_i s_i c_j s_j c_k s_k) 0) ^ 2 = 1 ∧
    euler_rxyx 1 0 c_j s_j (g_rxyx_x2 (euler_rxyx c_i s_i c_j s_j c_k s_k) 0) (g_rxyx_y2 (euler_rxyx c_i s_i c_j s_j c_k s_k) 0) = euler_rxyx c_i s_i c_j s_j c_k s_k :=
  TV.C19.C19_euler_from_matrix_gimbal_rxyx c_i s_i c_j s_j c_k s_k hi hj hk hg

theorem g_rxyz_spec (c_i s_i c_j s_j c_k s_k : K) (hi : c_i ^ 2 + s_i ^ 2 = 1) (hj : c_j ^ 2 + s_j ^ 2 = 1) (hk : c_k ^ 2 + s_k ^ 2 = 1) (hg : c_j = 0) :
    (g_rxyz_x2 (euler_rxyz c_i s_i c_j s_j c_k s_k) 0) ^ 2 + (g_rxyz_y2 (euler_rxyz c_i s_i c_j s_j c_k s_k) 0) ^ 2 = 1 ∧
    euler_rxyz 1 0 c_j s_j (g_rxyz_x2 (euler_rxyz c_i s_i c_j s_j c_k s_k) 0) (g_rxyz_y2 (euler_rxyz c_i s_i c_j s_j c_k s_k) 0) = euler_rxyz c_i s_i c_j s_j c_k s_k :=
  TV.C19.C19_euler_from_matrix_gimbal_rxyz c_i s_i c_j s_j c_k s_k hi hj hk hg

end TV.Generated.C19Inv
