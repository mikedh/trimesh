/-
C17 — Copies are faithful and share no mutable state with the original.
Property theorems only; helper lemmas live in Proofs/Alias.lean.
-/
import TrimeshVerif.Proofs.Alias
namespace TV.C17
open TV.Alias

variable {V : Type}

/-- the checker is sound: if it accepts, no cell is reachable from both objects -/
theorem C17_checker_sound (a b : List Cell) (h : disjointB a b = true) : ∀ c, c ∈ a → c ∉ b :=
  (disjointB_iff a b).1 h

/-- **frame theorem**: if the writable cells reachable from `a` and from `b` are disjoint (what the checker
    establishes on the walked object graphs), then *any* sequence of edits made through `a` — of any
    length — leaves everything `b` reports unchanged, now and for values `b` computes later (all of them
    are functions of `observe`) -/
theorem C17_frame (h : Cell → V) (a b : Obj) (es : List (Cell × V))
    (hd : disjointB a.cells b.cells = true) (he : ∀ e ∈ es, e.1 ∈ a.cells) :
    observe (applyEdits h es) b = observe h b :=
  observe_applyEdits_of_avoid h b es (fun e hm hb => C17_checker_sound _ _ hd e.1 (he e hm) hb)

/-- and symmetrically for edits made through the copy -/
theorem C17_frame_symm (h : Cell → V) (a b : Obj) (es : List (Cell × V))
    (hd : disjointB a.cells b.cells = true) (he : ∀ e ∈ es, e.1 ∈ b.cells) :
    observe (applyEdits h es) a = observe h a :=
  observe_applyEdits_of_avoid h a es fun e hm => disjointB_sound_symm hd e.1 (he e hm)

/-- **copy specification**: a copy that gives every reachable cell a fresh cell (injective renaming into
    cells not reachable from the original) with the same contents reports exactly what the original
    reports, shares no cell with it, and leaves the original untouched -/
theorem C17_copy_spec (h : Cell → V) (a : Obj) (ren : Cell → Cell)
    (hinj : ∀ c ∈ a.cells, ∀ c' ∈ a.cells, ren c = ren c' → c = c')
    (hfresh : ∀ c ∈ a.cells, ren c ∉ a.cells) :
    observe (copyHeap ren a h) (copyObj ren a) = observe h a ∧
    disjointB a.cells (copyObj ren a).cells = true ∧
    observe (copyHeap ren a h) a = observe h a := by
  refine ⟨?_, (disjointB_iff _ _).2 fun c hc hmem => ?_, ?_⟩
  · rw [observe, copyObj, List.map_map]
    exact List.map_congr_left (copyHeap_ren h a ren hinj)
  · obtain ⟨c', hc', rfl⟩ := List.mem_map.1 hmem
    exact hfresh c' hc' hc
  · exact List.map_congr_left fun x hx => copyHeap_of_not_fresh h a ren x fun c hc hren => hfresh c hc (hren ▸ hx)

/-- sharing a single cell is enough to leak an edit (why the checker must reject any overlap) -/
theorem C17_shared_cell_leaks :
    let a : Obj := ⟨[1, 2]⟩
    let b : Obj := ⟨[2, 3]⟩
    let h : Cell → Nat := fun _ => 0
    observe (applyEdits h [(2, 7)]) b ≠ observe h b ∧ disjointB a.cells b.cells = false := by
  decide

end TV.C17
