/-
C06 — Row grouping and uniqueness primitives are exact.
Property theorems only; helper lemmas live in Proofs/Grouping*.lean and Proofs/SortRuns.lean.
-/
import TrimeshVerif.Proofs.Grouping
import TrimeshVerif.Proofs.GroupingMore
import TrimeshVerif.Generated.C06Pack
namespace TV.C06
open TV TV.Grouping

/-- **Packing is injective under the code's guard** (2, 3 or 4 columns; all integers): two rows
    inside the guard that pack to the same uint64 are equal.  No overflow, no carry between fields. -/
theorem C06_pack_injective (cols : Nat) (hc : cols = 2 ∨ cols = 3 ∨ cols = 4)
    (r r' : List Int) (hl : r.length = cols) (hl' : r'.length = cols)
    (hg : ∀ v ∈ r, InGuard cols v) (hg' : ∀ v ∈ r', InGuard cols v)
    (h : packRow cols r = packRow cols r') : r = r' :=
  packRow_inj cols hc r r' hl hl' hg hg' h

/-- the guard is needed: one step beyond it two different rows pack to the same integer
    (the off-by-one the range check protects against) -/
theorem C06_guard_needed : packRow 2 [2 ^ 31, 0] = packRow 2 [-(2 ^ 31), 1] ∧
    ([2 ^ 31, 0] : List Int) ≠ [-(2 ^ 31), 1] := by decide

/-- `hashable_rows` is a faithful relabelling of the rows of one array: equal rows get equal
    hashes and different rows different hashes, on the packed route and on the fallback route -/
theorem C06_hashable_faithful (cols : Nat) (rows : List (List Int)) (hl : ∀ r ∈ rows, r.length = cols) :
    ∃ f : List Int → List Int, hashableRows cols rows = rows.map f ∧
      ∀ r ∈ rows, ∀ r' ∈ rows, f r = f r' → r = r' :=
  hashableRows_faithful cols rows hl

/-- **Grouping partitions exactly** (`grouping.group` on any values with a total order, any
    `min_len` / `max_len`): the groups returned are exactly the classes of equal values whose size
    passes the filter; every index is in exactly one class; classes are duplicate-free. -/
theorem C06_group_partition {α : Type} [DecidableEq α] (le : α → α → Bool) (hle : IsOrder le)
    (vs : List α) (minLen maxLen : Option Nat) :
    -- the unfiltered groups partition the indices by equality of values
    (∀ i j, i < vs.length → j < vs.length →
        ((∃ g ∈ groupsOf le vs, i ∈ g ∧ j ∈ g) ↔ vs[i]? = vs[j]?)) ∧
    (∀ i, i < vs.length → (groupsOf le vs).flatten.count i = 1) ∧
    -- the filter keeps exactly the classes whose size passes
    (∀ g, g ∈ group le vs minLen maxLen ↔ g ∈ groupsOf le vs ∧ lenOk minLen maxLen g.length = true) := by
  have h := groupsOf_isGrouping hle vs
  exact ⟨fun i j hi hj => h.same_group_iff hi hj, fun i hi => h.count_one hi, fun g => List.mem_filter⟩

/-- **group_rows**: two row indices land in the same group iff the rows are equal -/
theorem C06_group_rows (cols : Nat) (rows : List (List Int)) (hl : ∀ r ∈ rows, r.length = cols)
    (i j : Nat) (hi : i < rows.length) (hj : j < rows.length) :
    (∃ g ∈ groupsOf lexLe (hashableRows cols rows), i ∈ g ∧ j ∈ g) ↔ rows[i]? = rows[j]? :=
  (hashable_isGrouping cols rows hl).same_group_iff hi hj

/-- **unique_rows / np.unique model**: the returned indices and inverse reconstruct the input,
    the selected values are pairwise different, and each selected index is the first occurrence
    of its value — in sorted order and in `keep_order` (first-occurrence) order alike -/
theorem C06_unique {α : Type} [DecidableEq α] (le : α → α → Bool) (hle : IsOrder le) (vs : List α)
    (keepOrder : Bool) :
    let r := if keepOrder then uniqueOrderedIdxInv le vs else uniqueIdxInv le vs
    (∀ i, i < vs.length → ∃ k u, r.2[i]? = some k ∧ r.1[k]? = some u ∧ vs[u]? = vs[i]?) ∧
    r.1.Pairwise (fun u u' => vs[u]? ≠ vs[u']?) ∧
    (∀ u ∈ r.1, ∀ j, j < u → vs[j]? ≠ vs[u]?) ∧
    (keepOrder = true → r.1.Pairwise (· ≤ ·)) := by
  have h := (groupsOf_isGrouping hle vs).ite_orderByHead keepOrder
  rw [uniqueIdxInv_ite_eq]
  exact ⟨fun i hi => h.unique_reconstruct hi, h.unique_distinct, fun u hu => h.unique_first hu,
    fun hk => by rw [if_pos hk]; exact orderByHead_sorted _⟩

/-- unique_rows on rows: reconstruction at the level of rows, through the hash -/
theorem C06_unique_rows (cols : Nat) (rows : List (List Int)) (hl : ∀ r ∈ rows, r.length = cols)
    (keepOrder : Bool) (i : Nat) (hi : i < rows.length) :
    ∃ k u, (uniqueRows cols rows keepOrder).2[i]? = some k ∧
      (uniqueRows cols rows keepOrder).1[k]? = some u ∧ rows[u]? = rows[i]? := by
  rw [uniqueRows_eq]
  exact ((hashable_isGrouping cols rows hl).ite_orderByHead keepOrder).unique_reconstruct hi

/-! ### run merging, per-group minimum, set operations on rows -/

/-- **merge_runs**: the result has no two equal neighbours, and the input is the result with every
    value repeated a positive number of times (so exactly the consecutive repeats were removed,
    a value may still occur in several places) -/
theorem C06_merge_runs (l : List Int) :
    (∀ i, i + 1 < (mergeRuns l).length → (mergeRuns l)[i]? ≠ (mergeRuns l)[i + 1]?) ∧
    ∃ cs : List Nat, cs.length = (mergeRuns l).length ∧ (∀ c ∈ cs, 0 < c) ∧
      expandRuns (mergeRuns l) cs = l :=
  ⟨mergeRuns_adjacent l, mergeRuns_expand l⟩

example : mergeRuns [-1, -1, 0, 0, 1, 2, 0, 3, 3] = [-1, 0, 1, 2, 0, 3] := by decide

/-- **group_min**: one entry per class of equal labels (the classes of `C06_group_partition`, in
    ascending label order); the entry is a lower bound of the data of its class and is attained -/
theorem C06_group_min (groups data : List Int) :
    (groupMin groups data).length = (groupsOf intLe groups).length ∧
    ∀ (k : Nat) (g : List Nat), (groupsOf intLe groups)[k]? = some g →
      ∃ m : Int, (groupMin groups data)[k]? = some m ∧ (∀ i ∈ g, m ≤ data.getD i 0) ∧
        ∃ i ∈ g, m = data.getD i 0 := by
  refine ⟨by simp [groupMin], ?_⟩
  intro k g hk
  have hg : g ∈ groupsOf intLe groups := List.mem_of_getElem? hk
  have hne := (groupsOf_isGrouping intLe_isOrder groups).ne_nil g hg
  refine ⟨(g.map (fun i => data.getD i 0)).foldl min (data.getD (g.headD 0) 0), ?_, ?_, ?_⟩
  · simp only [groupMin, List.getElem?_map, hk, Option.map_some]
  · intro i hi
    exact foldl_min_le _ _ _ (List.mem_cons_of_mem _ (List.mem_map.mpr ⟨i, hi, rfl⟩))
  · rcases List.mem_cons.mp (foldl_min_mem (data.getD (g.headD 0) 0) (g.map (fun i => data.getD i 0))) with h | h
    · exact ⟨g.headD 0, headD_mem hne, h⟩
    · obtain ⟨i, hi, e⟩ := List.mem_map.mp h
      exact ⟨i, hi, e.symm⟩

/-- **boolean_rows**: the intersection holds exactly the rows present in both arrays, the
    difference exactly the rows of `a` absent from `b`; each row once, in ascending order -/
theorem C06_boolean_rows (a b : List (List Int)) :
    (∀ r, r ∈ rowsInter a b ↔ r ∈ a ∧ r ∈ b) ∧ (rowsInter a b).Pairwise lexLt ∧
    (∀ r, r ∈ rowsDiff a b ↔ r ∈ a ∧ r ∉ b) ∧ (rowsDiff a b).Pairwise lexLt := by
  have key : ∀ l : List (List Int), (∀ r, r ∈ (l.mergeSort lexLe).eraseDups ↔ r ∈ l) ∧
      ((l.mergeSort lexLe).eraseDups).Pairwise lexLt := by
    intro l
    refine ⟨fun r => by rw [List.mem_eraseDups, List.mem_mergeSort], ?_⟩
    exact ((List.pairwise_mergeSort lexLe_isOrder.trans lexLe_isOrder.total l).sublist (eraseDups_sublist _)).and
      (eraseDups_nodup _)
  refine ⟨?_, (key _).2, ?_, (key _).2⟩
  · intro r; unfold rowsInter; rw [(key _).1]; simp
  · intro r; unfold rowsDiff; rw [(key _).1]; simp

/-! ### blocks -/

/-- without wrap-around `blocks` is the specification (maximal runs, then the filter) -/
theorem C06_blocks_nowrap_spec (data : List Int) (minLen : Nat) (maxLen : Option Nat) (onz : Bool) :
    blocks data minLen maxLen false onz = blocksSpec data minLen maxLen false onz := by
  rw [blocks_nowrap, blocksSpec_nowrap, runsOf, List.filter_map]
  congr 1
  apply List.filter_congr
  intro se hse
  simp only [Function.comp, rangeFromTo_length]
  by_cases hd : data = []
  · subst hd
    have : se = (0, 0) := by simpa [consec, infl, changePoints] using hse
    subst this; rfl
  · rw [rangeFromTo_headD (lt_le_of_mem_consec_infl hd hse).1]

/-- **the runs tile the array**: unfiltered, the blocks concatenate to `0, 1, …, n-1` — every index
    lies in exactly one block, blocks are contiguous and in order -/
theorem C06_blocks_tile (data : List Int) : (blocks data 0 none false false).flatten = List.range data.length := by
  rw [blocks_nowrap, List.filter_eq_self.mpr (fun _ _ => by simp), ← runsOf, runsOf_flatten]

/-- **blocks are exactly the maximal runs of equal values that pass the filter**: a block is an index
    range `s .. e-1` on which the data are constant, that cannot be extended to the left or right,
    whose length is within `[min_len, max_len]` (and whose value is non-zero when `only_nonzero`);
    and every such range is returned -/
theorem C06_blocks_runs (data : List Int) (hd : data ≠ []) (minLen : Nat) (maxLen : Option Nat) (onz : Bool)
    (b : List Nat) :
    b ∈ blocks data minLen maxLen false onz ↔
      ∃ s e, b = rangeFromTo s e ∧ s < e ∧ e ≤ data.length ∧
        (∀ i, s ≤ i → i < e → data.getD i 0 = data.getD s 0) ∧
        (s = 0 ∨ data.getD s 0 ≠ data.getD (s - 1) 0) ∧
        (e = data.length ∨ data.getD e 0 ≠ data.getD (e - 1) 0) ∧
        minLen ≤ e - s ∧ (∀ m, maxLen = some m → e - s ≤ m) ∧ (onz = true → data.getD s 0 ≠ 0) := by
  simp only [blocks_nowrap, List.mem_map, List.mem_filter, Prod.exists, mem_consec_infl hd,
    Bool.and_eq_true, decide_eq_true_eq, Option.all_eq_true, Bool.or_eq_true, Bool.not_eq_true', bne_iff_ne]
  refine exists₂_congr fun s e => ?_
  -- the same conjuncts in another order, with `onz = false ∨ _` for `onz = true → _`
  rw [and_comm, eq_comm]
  simp only [and_assoc, ← Bool.not_eq_true, ← Decidable.imp_iff_not_or]

example : blocks [5, 5, 0, 0, 0, 7] 2 none false false = [[0, 1], [2, 3, 4]] ∧
    blocks [5, 5, 0, 0, 0, 7] 2 none false true = [[0, 1]] := by decide

/-- **wrap-around** (`wrap=True`) when nothing is filtered (`min_len ≤ 1`, no `max_len`, `only_nonzero=False`): the
    code returns the specification - the runs as they are when the first and last value differ or there is a single
    run; otherwise the last and the first run joined into one block (placed first) followed by the runs in
    between.  `_partial`: the wrap-around case is proved for these arguments only; with filters the code departs
    from the specification (`C06_blocks_wrap_witnesses`) -/
theorem C06_blocks_wrap_unfiltered_partial (data : List Int) (hd : data ≠ []) (minLen : Nat) (hm : minLen ≤ 1) :
    blocks data minLen none true false = blocksSpec data minLen none true false := by
  -- a run has a member, so nothing is filtered, neither the pairs of the code nor the lists of the specification
  have hfilt : (consec (infl data)).filter (fun se => decide (minLen ≤ se.2 - se.1)) = consec (infl data) :=
    List.filter_eq_self.mpr fun se hse => by
      have := (lt_le_of_mem_consec_infl hd hse).1; simp only [decide_eq_true_eq]; omega
  have hpass : ∀ l : List (List Nat), (∀ r ∈ l, r ≠ []) → l.filter (fun r => decide (minLen ≤ r.length)) = l :=
    fun l hl => List.filter_eq_self.mpr fun r hr => by
      have := List.length_pos_iff.mpr (hl r hr); simp only [decide_eq_true_eq]; omega
  have hR : List.map (fun se => rangeFromTo se.fst se.snd) (consec (infl data)) = runsOf data := rfl
  have hpos := runsOf_ne_nil hd
  have htile := runsOf_flatten data
  -- the runs tile `0 .. n-1`: the first starts at `0`, the last ends at `n-1`
  obtain ⟨⟨t, hhead⟩, b, hlast, hbl⟩ := head_getLast_of_tile (List.length_pos_iff.mpr hd) htile hpos
  simp only [blocks, blocksSpec, blocks_pairs_eq, Bool.not_true, Bool.false_eq_true, if_false, Bool.true_and,
    Bool.false_and, Bool.and_true, Bool.not_false, Bool.true_or, hfilt, hR, hhead, hlast, hbl, BEq.rfl, if_true]
  generalize runsOf data = R at *
  -- neither is the joined block, which holds `0`
  have hJ : ∀ r ∈ (R.getLastD [] ++ R.headD []) :: R.tail.dropLast, r ≠ [] := by
    intro r hr
    rcases List.mem_cons.mp hr with rfl | hr
    · rw [List.headD_eq_head?_getD, hhead]; exact List.append_ne_nil_of_right_ne_nil _ (List.cons_ne_nil 0 t)
    · exact hpos r (List.mem_of_mem_tail ((List.dropLast_sublist _).subset hr))
  rw [apply_ite (List.filter _), hpass _ hpos, hpass _ hJ]
  -- a single run is the whole range; so the code's test for it is the specification's `length > 1`
  obtain ⟨rest, rfl⟩ := List.head?_eq_some_iff.mp hhead
  cases rest with
  | nil => simp [show (0 :: t).length = data.length by simpa using congrArg List.length htile]
  | cons r rest => simp [bne]

example : blocks [7, 7, 1, 2, 7] 1 none true false = [[4, 0, 1], [2], [3]] := by decide

/-- the two wrap-around defects of the current source (known findings), as theorems about the model:
    an all-equal array whose single run is filtered out comes back with every index twice, and
    `max_len` is not applied to the merged wrap-around run -/
theorem C06_blocks_wrap_witnesses :
    blocks [0] 2 none true false = [[0, 0]] ∧ blocksSpec [0] 2 none true false = [] ∧
    blocks [0, 0, 1, 0] 1 (some 2) true false = [[3, 0, 1], [2]] ∧
    blocksSpec [0, 0, 1, 0] 1 (some 2) true false = [[2]] := by decide

/-! ### (G) the packing constants of the source -/

/-- (G) **`hashable_rows` in the current source packs with the constants the theorems are about**: up to 4 columns;
    for 2, 3, 4 columns `precision = 64 / cols` and `threshold = 2^(precision-1) - 1` as in the model; the range
    guard is `d_max < threshold and d_min > -threshold`, both strict (the guard of `C06_pack_injective`;
    `C06_guard_needed` shows one step more collides) -/
theorem C06_packing_constants_of_source :
    TV.Generated.C06.maxCols = 4 ∧
    TV.Generated.C06.packRows = [2, 3, 4].map (fun c => (c, precision c, threshold c)) ∧
    TV.Generated.C06.guard = [("d_max", "lt", "threshold"), ("d_min", "gt", "-threshold")] := by decide

/-! ### unique_value_in_row, unique_bincount -/

/-- **unique_value_in_row**: every row of the mask has the length of its row and at most one `True`; it has one exactly
    when some value occurs exactly once in the row, and a marked entry always holds such a value -/
theorem C06_unique_value_in_row (rows : List (List Int)) :
    uniqueValueInRow rows = rows.map uviRow ∧
    ∀ r : List Int, (uviRow r).length = r.length ∧ (uviRow r).count true ≤ 1 ∧
      ((uviRow r).count true = 1 ↔ ∃ v ∈ r, r.count v = 1) ∧
      (∀ i : Nat, (uviRow r)[i]? = some true → ∃ v, r[i]? = some v ∧ r.count v = 1) := by
  refine ⟨rfl, fun r => ?_⟩
  rcases uviRow_cases r with ⟨e, hn⟩ | ⟨w, hwr, hwc, e⟩
  · have hc : (r.map (fun _ => false)).count true = 0 := List.count_eq_zero.mpr (by simp)
    rw [e, hc]
    exact ⟨List.length_map _, Nat.zero_le 1, ⟨(absurd · Nat.zero_ne_one), fun ⟨v, hv, hcv⟩ => absurd hcv (hn v hv)⟩,
      by simp⟩
  · rw [e, count_map_beq, hwc]
    refine ⟨List.length_map _, Nat.le_refl 1, ⟨fun _ => ⟨w, hwr, hwc⟩, fun _ => rfl⟩, fun i hi => ?_⟩
    obtain ⟨v, hv, e⟩ := Option.map_eq_some_iff.mp (List.getElem?_map .. ▸ hi)
    exact ⟨v, hv, beq_iff_eq.mp e ▸ hwc⟩

/-- **unique_bincount** (non-negative integers): the unique values are the distinct values in ascending order, the
    inverse rebuilds the input (`unique[inverse[i]] = values[i]`) and the counts are the numbers of occurrences -/
theorem C06_unique_bincount (vs : List Nat) (hne : vs ≠ []) :
    let r := uniqueBincount vs
    r.1.Pairwise (· < ·) ∧ (∀ v, v ∈ r.1 ↔ v ∈ vs) ∧
    (∀ i : Nat, i < vs.length → ∃ k, r.2.1[i]? = some k ∧ r.1[k]? = vs[i]?) ∧
    (r.2.2 = r.1.map (fun u => vs.count u)) := by
  simp only [uniqueBincount, List.isEmpty_eq_false_iff.mpr hne, Bool.false_eq_true, if_false]
  -- every value has a bin
  have hlt : ∀ v ∈ vs, v < vs.foldl max 0 + 1 := fun v hv =>
    Nat.lt_succ_of_le (le_foldl_max 0 vs v (List.mem_cons_of_mem _ hv))
  refine ⟨List.Pairwise.sublist List.filter_sublist List.pairwise_lt_range, fun v => ?_, fun i hi => ?_, ?_⟩
  · simp only [List.mem_filter, List.mem_range, bne_iff_ne, ne_eq, List.count_eq_zero, Decidable.not_not]
    exact ⟨And.right, fun hv => ⟨hlt v hv, hv⟩⟩
  · -- the inverse of a value is its position among the occupied bins
    have hmem : vs[i] ∈ vs := List.getElem_mem hi
    rw [List.getElem?_map, List.getElem?_eq_getElem hi, Option.map_some, getD_map_range _ 0 (hlt _ hmem)]
    exact ⟨_, rfl, filter_range_getElem _ _ _ (hlt _ hmem) (by simp [List.count_eq_zero, hmem])⟩
  · exact List.map_congr_left fun u hu => getD_map_range _ 0 (List.mem_range.mp (List.mem_filter.mp hu).1)

example : uniqueBincount [3, 0, 3, 5] = ([0, 3, 5], [1, 0, 1, 2], [1, 2, 1]) ∧
    uniqueValueInRow [[-1, 1, 1], [2, 2, 2], [4, 5, 6]] = [[true, false, false], [false, false, false], [false, false, true]] := by
  decide

end TV.C06
