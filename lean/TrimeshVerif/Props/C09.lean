/-
C09 — Scene-graph transforms are the product of the current edges along the path.
The property theorems, with the hypotheses they are stated with (`WF`, `NoCycle`, and the conversions to the predicates of
Proofs/Forest.lean), the transform `T` of `C09_laws` and the data of the witnesses; helper lemmas live in
Proofs/Forest.lean.
`G` is any group of edge matrices, `N` any node type.  The theorems about one forest hold for every well-formed
forest (`WF`), and `add_edge` keeps a forest well formed unless it closes a cycle (`NoCycle`), which the code does
not check.  The theorem about the caches, `C09_cached_get_eq_raw`, holds for every history of updates,
re-parentings, removals, base-frame changes and interleaved queries in which no update closes a cycle (`Safe`);
without that restriction it is false (`C09_cycle_witness`).
-/
import TrimeshVerif.Proofs.Forest
import TrimeshVerif.Proofs.ForestEdgelist
import TrimeshVerif.Generated.C09Table
namespace TV.C09
open TV.Forest

variable {N G : Type} [DecidableEq N]

/-- well-formed forest: one parent entry per child, one data entry per edge, `parents` and the keys of
    `edge_data` describe the same edges, and the parent relation is acyclic.  `WF f` is `WFs f ∧ Acyclic f`, the two
    hypotheses the lemmas of Proofs/Forest.lean take (`WF.wfs`, `WF.acyclic`, `WF.of`) -/
structure WF (f : Forest N G) : Prop where
  parents_nodup : (f.parents.map (·.1)).Nodup
  edges_nodup : (f.edges.map (·.1)).Nodup
  consistent : ∀ u v, (v, u) ∈ f.parents ↔ ∃ g, ((u, v), g) ∈ f.edges
  acyclic : ∃ rank : N → Nat, ∀ p ∈ f.parents, rank p.2 < rank p.1

/-- an update `(u → v)` does not close a cycle: `v` is not `u` nor an ancestor of `u`.  This is what `OpOK` asks of
    `.update v u g` on a graph whose forest is `f` -/
def NoCycle (f : Forest N G) (u v : N) : Prop := v ∉ ancestors f f.parents.length u

omit [DecidableEq N] in
private theorem WF.wfs {f : Forest N G} (h : WF f) : WFs f := ⟨h.parents_nodup, h.edges_nodup, h.consistent⟩

omit [DecidableEq N] in
private theorem WF.of {f : Forest N G} (h : WFs f) (hac : Acyclic f) : WF f :=
  ⟨h.parents_nodup, h.edges_nodup, h.consistent, hac⟩

/-- the empty forest is well formed, and `add_edge` (including re-parenting an existing child and
    overwriting an existing edge) and `remove_node` keep it well formed -/
theorem C09_wf_preserved (f : Forest N G) (h : WF f) (u v : N) (g : G) :
    WF (Forest.empty : Forest N G) ∧ (NoCycle f u v → WF (addEdge f u v g)) ∧ WF (removeNode f u) :=
  ⟨.of wfs_empty acyclic_empty,
    fun hc => .of (wfs_addEdge h.wfs u v g) (acyclic_addEdge h.wfs h.acyclic u v g hc),
    .of (wfs_removeNode h.wfs u) (acyclic_removeNode h.acyclic u)⟩

section group
variable [Mul G] [One G] [Inv G] [LawfulGroup G]

/-- abstract transform between two frames: inverse world matrix of `a` times world matrix of `b` -/
def T (f : Forest N G) (a b : N) : G := (world f f.parents.length a)⁻¹ * world f f.parents.length b

/-- **path resolution is the product along the unique path**: in any well-formed forest the transform
    returned between two connected frames is `world(a)⁻¹ · world(b)` — the product of the current edge
    matrices on the path, inverted where an edge is walked from child to parent — and frames in
    different trees give an error, never a matrix -/
theorem C09_get_spec (f : Forest N G) (h : WF f) (a b : N) :
    getRaw f a b = if rootOf f a = rootOf f b then some (T f a b) else none :=
  getRaw_spec h.wfs h.acyclic a b

/-- world matrices are the products of edges from the root: `world(v) = world(parent v) · E(parent v, v)` -/
theorem C09_world_step (f : Forest N G) (h : WF f) (u v : N) (g : G) (he : ((u, v), g) ∈ f.edges) :
    world f f.parents.length v = world f f.parents.length u * g :=
  world_edge h.wfs h.acyclic he

/-- consequences: identity on the diagonal, composition, inverse -/
theorem C09_laws (f : Forest N G) (a b c : N) :
    T f a a = 1 ∧ T f a c = T f a b * T f b c ∧ T f a b = (T f b a)⁻¹ := by
  unfold T
  exact g_inv_mul_laws _ _ _

/-- a changed edge is visible immediately: right after `update(v, u, g)` the transform `u → v` is `g`,
    whatever was stored or queried before -/
theorem C09_update_visible (f : Forest N G) (h : WF f) (u v : N) (g : G) (hne : u ≠ v)
    (hc : NoCycle f u v) : getRaw (addEdge f u v g) u v = some g ∧
      world (addEdge f u v g) (addEdge f u v g).parents.length v
        = world (addEdge f u v g) (addEdge f u v g).parents.length u * g := by
  refine ⟨getRaw_addEdge g hne, world_edge (wfs_addEdge h.wfs u v g)
    (acyclic_addEdge h.wfs h.acyclic u v g hc) ?_⟩
  rw [addEdge_edges h.wfs]
  exact List.mem_cons_self ..

/-- removing a node disconnects it: no transform to any other frame remains (the proof does not use `h`) -/
theorem C09_removed_disconnected (f : Forest N G) (h : WF f) (u w : N) (hne : u ≠ w) :
    getRaw (removeNode f u) u w = none ∨ ¬ hasNode f u = true :=
  (Decidable.em _).imp (getRaw_removeNode hne) id

variable [DecidableEq G]

/-- the unrestricted statement: after *any* history the cached query equals the cache-free resolution.
    It is FALSE when an `update` closes a cycle of length ≥ 4 (the code does not prevent that; the
    reversed cached path is then not the path the fresh walk finds): `C09_cycle_witness` refutes it for `N = Nat`,
    `G = Z`.  The property quantifies over forests, so the theorem below carries `Safe`. -/
def C09_cached_full (N G : Type) [DecidableEq N] [Mul G] [One G] [Inv G] [DecidableEq G] : Prop :=
  ∀ (t : InvalTable), t.ok = true → ∀ (base : N) (ops : List (Op N G)) (a b : N),
    (doGet (run t (Graph.init base) ops) a b).1 = getRaw (run t (Graph.init base) ops).forest a b

/-- **the caches never serve a stale answer**: with the invalidation protocol the source implements
    (`InvalTable.ok`), after *any* history of operations in which no update closes a cycle (`Safe`) —
    updates, re-parentings, overwrites, removals, base-frame changes, `clear`, and earlier queries that
    filled the path cache, the hash memo and the transform cache — a query returns exactly what the
    cache-free resolution returns on the current forest -/
theorem C09_cached_get_eq_raw (t : InvalTable) (ht : t.ok = true) (base : N) (ops : List (Op N G))
    (hs : Safe t (Graph.init base) ops) (a b : N) :
    (doGet (run t (Graph.init base) ops) a b).1 = getRaw (run t (Graph.init base) ops).forest a b :=
  (doGet_spec (cacheInv_run_of_safe ht ops _ (cacheInv_init base) hs) a b).1

end group

/-- (G) the invalidation table extracted from `/repo/trimesh/scene/transforms.py` on this run
    satisfies the protocol the theorem above needs -/
theorem C09_table_ok : TV.Generated.c09Table.ok = true := by decide

/-! ### witness: without the hash reset in `add_edge` a query after an update is stale -/

/-- the additive group of integers as a toy matrix group -/
structure Z where
  v : Int
  deriving DecidableEq, Repr
instance : Mul Z := ⟨fun a b => ⟨a.v + b.v⟩⟩
instance : One Z := ⟨⟨0⟩⟩
instance : Inv Z := ⟨fun a => ⟨-a.v⟩⟩

/-- `Z` is a group, so the witnesses below live where the theorems above apply -/
example : LawfulGroup Z :=
  ⟨fun ⟨x⟩ ⟨y⟩ ⟨z⟩ => by show Z.mk (x + y + z) = Z.mk (x + (y + z)); rw [Int.add_assoc],
   fun ⟨x⟩ => by show Z.mk (0 + x) = Z.mk x; rw [Int.zero_add],
   fun ⟨x⟩ => by show Z.mk (x + 0) = Z.mk x; rw [Int.add_zero],
   fun ⟨x⟩ => by show Z.mk (-x + x) = Z.mk 0; rw [Int.add_left_neg],
   fun ⟨x⟩ => by show Z.mk (x + -x) = Z.mk 0; rw [Int.add_right_neg]⟩

def badTable : InvalTable :=
  { addEdgeResetsHash := false, addEdgeClearsPathsOnNewEdge := true, removeNodeResetsHash := true,
    removeNodeClearsPaths := true, clearClearsCache := true }

def staleOps : List (Op Nat Z) := [.update 1 0 ⟨5⟩, .get 1 0, .update 1 0 ⟨7⟩]

theorem C09_stale_without_hash_reset :
    (doGet (run badTable (Graph.init 0) staleOps) 0 1).1 = some ⟨5⟩ ∧
    getRaw (run badTable (Graph.init 0) staleOps).forest 0 1 = some ⟨7⟩ := by
  decide

/-! ### counterexample: without `Safe` the statement is false (`C09_cached_full`, `C09_cycle_witness`)

`update` performs no cycle check, so a history can close a cycle in `parents`; on a 4-cycle
`pathTo f 0 2` and the reverse of the cached `pathTo f 2 0` are different paths with different
products.  The theorem holds for histories that keep the forest acyclic (examples below). -/

def cycleOps : List (Op Nat Z) :=
  [.update 0 1 ⟨1⟩, .update 1 2 ⟨10⟩, .update 2 3 ⟨100⟩, .update 3 0 ⟨1000⟩, .get 0 2]

/-- on a 4-cycle of frames the cached and the cache-free answers differ (outside the property's
    domain: the frames do not form a forest) -/
theorem C09_cycle_witness :
    (⟨true, true, true, true, true⟩ : InvalTable).ok = true ∧
    (doGet (run ⟨true, true, true, true, true⟩ (Graph.init 0) cycleOps) 0 2).1 = some ⟨-11⟩ ∧
    getRaw (run ⟨true, true, true, true, true⟩ (Graph.init 0) cycleOps).forest 0 2 = some ⟨1100⟩ := by
  decide

/-- the statement is provable when the forest is well formed after every operation -/
example {N G : Type} [DecidableEq N] [Mul G] [One G] [Inv G] [LawfulGroup G] [DecidableEq G]
    (t : InvalTable) (ht : t.ok = true) (base : N) (ops : List (Op N G))
    (hwf : ∀ k, WF (run t (Graph.init base) (ops.take k)).forest) (a b : N) :
    (doGet (run t (Graph.init base) ops) a b).1 = getRaw (run t (Graph.init base) ops).forest a b :=
  cached_get_eq_raw_of_acyclic t ht base ops (fun k => (hwf k).acyclic) a b

/-! non-vacuity, by evaluation: the cached queries after a three-level forest with a re-parenting -/
def demoOps : List (Op Nat Z) :=
  [.update 1 0 ⟨1⟩, .update 2 0 ⟨10⟩, .update 3 1 ⟨100⟩, .get 3 0, .update 3 2 ⟨1000⟩]
example :
    (doGet (run TV.Generated.c09Table (Graph.init 0) demoOps) 0 3).1 = some ⟨1010⟩ ∧
    (doGet (run TV.Generated.c09Table (Graph.init 0) demoOps) 1 3).1 = some ⟨1009⟩ := by decide

section edgelist
variable [Mul G] [One G] [Inv G]

/-- **the edge list export rebuilds an equivalent graph**: load `to_edgelist()` of any well-formed forest into a
    fresh graph with `from_edgelist` (one `update(child, parent, matrix)` per entry, in export order): the
    rebuilt graph resolves every pair of frames to the same transform, or to the same "no path" error, as the
    original - whatever history of updates, re-parentings and removals produced the original -/
theorem C09_edgelist_roundtrip (f : Forest N G) (h : WF f) (a b : N) :
    getRaw (fromEdgelist (toEdgelist f)) a b = getRaw f a b :=
  getRaw_congr h.wfs h.acyclic (wfs_fromEdgelist _) (mem_fromEdgelist_toEdgelist h.wfs).1
    (mem_fromEdgelist_toEdgelist h.wfs).2 a b

/-- the rebuilt graph holds exactly the exported edges (in reverse dictionary order) and one parent entry per edge -/
theorem C09_edgelist_rebuilt (f : Forest N G) (h : WF f) :
    (fromEdgelist (toEdgelist f)).edges = f.edges.reverse ∧
    (fromEdgelist (toEdgelist f)).parents = f.edges.reverse.map (fun e => (e.1.2, e.1.1)) :=
  fromEdgelist_eq h.wfs

end edgelist

/-- non-vacuity: a forest built by updates and one re-parenting is rebuilt from its edge list with the same
    edges and the same parents -/
example :
    let f : Forest Nat Int := addEdge (addEdge (addEdge (addEdge Forest.empty 0 1 5) 1 2 7) 0 3 2) 3 2 9
    (fromEdgelist (toEdgelist f)).edges = f.edges.reverse ∧ parentOf (fromEdgelist (toEdgelist f)) 2 = some 3 ∧
    parentOf f 2 = some 3 ∧ edgeOf f 1 2 = none := by
  decide

end TV.C09
