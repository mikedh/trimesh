/-
C15 — Created shapes and primitives are valid solids with analytic measures.
Property theorems only; helper lemmas live in Proofs/Creation.lean (profile sums, box, icosahedron), Proofs/RevolveGrid.lean
and Proofs/Revolve.lean (closedness of every kind of revolve), Proofs/Extrude.lean.  The box / icosahedron tables are
regenerated from trimesh/resources/creation.json on every run (Generated/C15Tables.lean).
-/
import TrimeshVerif.Proofs.Creation
import TrimeshVerif.Proofs.Revolve
import TrimeshVerif.Proofs.Extrude
import TrimeshVerif.Proofs.ListAux
namespace TV.C15
open TV.Query TV.Creation

/-- one quad of the revolve (two triangles, as indexed by `revolve`) seen from the origin -/
theorem C15_quad_volume (p q : Rat × Rat) (u v : Dir) :
    quadVol6 p q u v = cross2 u v * profileTerm p q := by
  obtain ⟨p1, p2⟩ := p; obtain ⟨q1, q2⟩ := q; obtain ⟨u1, u2⟩ := u; obtain ⟨v1, v2⟩ := v
  simp only [quadVol6, vol6, rv, cross2, profileTerm, dot, cross]
  ring

/-- one slice of the revolve -/
theorem C15_slice_volume (prof : List (Rat × Rat)) (u v : Dir) :
    sliceVol6 prof u v = cross2 u v * profileSum prof := by
  fun_induction profileSum prof with
  | case1 p q rest ih => rw [sliceVol6, ih, C15_quad_volume, mul_add]
  | case2 l h => rw [sliceVol6.eq_2 l u v h, mul_zero]

/-- **tessellated volume of a revolve**: for every profile and every list of slice directions (any count, full
    or partial turn), six times the volume is `(Σ_j sin Δθ_j) · Σ_k (r_k + r_{k+1})(h_{k+1} r_k − h_k r_{k+1})` -/
theorem C15_revolve_volume (prof : List (Rat × Rat)) (dirs : List Dir) :
    revolveVol6 prof dirs = dirSum dirs * profileSum prof := by
  fun_induction dirSum dirs with
  | case1 u v rest ih => rw [revolveVol6, ih, C15_slice_volume, add_mul]
  | case2 l h => rw [revolveVol6.eq_2 prof l h, zero_mul]

/-- the volume seen from the origin does not depend on where the turn starts: rotating all three corners
    about the axis leaves `vol6` unchanged -/
theorem C15_rot_invariant (c s : Rat) (h : c * c + s * s = 1) (a b d : P) :
    vol6 (rotZ c s a) (rotZ c s b) (rotZ c s d) = vol6 a b d := by
  obtain ⟨a1, a2, a3⟩ := a; obtain ⟨b1, b2, b3⟩ := b; obtain ⟨d1, d2, d3⟩ := d
  simp only [vol6, rotZ, dot, cross]
  linear_combination (a1 * (b2 * d3 - b3 * d2) + a2 * (b3 * d1 - b1 * d3) + a3 * (b1 * d2 - b2 * d1)) * h

/-- profile sums of the shapes built on `revolve`: cylinder `3 h R²`, cone `h R²`, annulus `3 h (R² − r²)`;
    with `n` equal slices of angle `2π/n` this gives `V = (n sin(2π/n) / 2) · R² h` etc., below the smooth value
    and approaching it as `n` grows -/
theorem C15_profiles (R r h : Rat) :
    profileSum [(0, -h / 2), (R, -h / 2), (R, h / 2), (0, h / 2)] = 3 * h * (R * R) ∧
    profileSum [(0, 0), (R, 0), (0, h)] = h * (R * R) ∧
    profileSum [(r, -h / 2), (R, -h / 2), (R, h / 2), (r, h / 2), (r, -h / 2)] = 3 * h * (R * R - r * r) := by
  exact profiles R r h

/-- every index produced by the face arithmetic is a valid vertex index -/
theorem C15_revolve_faces_in_range (per slices nVerts : Nat) (keep : Nat → Bool) (hn : 0 < nVerts) :
    ∀ f ∈ revolveFaces per slices nVerts keep, f.1 < nVerts ∧ f.2.1 < nVerts ∧ f.2.2 < nVerts := by
  intro f hf
  simp only [revolveFaces, List.mem_flatMap, List.mem_map] at hf
  obtain ⟨j, _, g, _, rfl⟩ := hf
  exact ⟨Nat.mod_lt _ hn, Nat.mod_lt _ hn, Nat.mod_lt _ hn⟩

/-- and each slice contributes the same number of faces -/
theorem C15_revolve_faces_count (per slices nVerts : Nat) (keep : Nat → Bool) :
    (revolveFaces per slices nVerts keep).length = slices * (single per keep).length := by
  unfold revolveFaces
  rw [length_flatMap_const (k := (single per keep).length) _ _ (fun _ _ => List.length_map _), List.length_range,
    Nat.mul_comm]

/-- **box**: the table in creation.json is a closed, consistently wound surface -/
theorem C15_box_closed : TV.Remesh.Closed TV.Generated.boxFaces := by
  unfold TV.Remesh.Closed
  decide

/-- **box volume is the product of the extents** (positive: wound outwards), for every extents -/
theorem C15_box_volume (ext : P) :
    boxVol6 ext TV.Generated.boxCorners TV.Generated.boxFaces = 6 * (ext.1 * ext.2.1 * ext.2.2) := by
  simp only [boxVol6, TV.Generated.boxFaces, TV.Generated.boxCorners, List.map_cons, List.map_nil, List.sum_cons,
    List.sum_nil, List.getD_cons_zero, List.getD_cons_succ, boxVertex, vol6, dot, cross, Nat.cast_zero, Nat.cast_one]
  ring

/-- box bounds are `± extents / 2` -/
theorem C15_box_bounds (ext : P) (h1 : 0 ≤ ext.1) (h2 : 0 ≤ ext.2.1) (h3 : 0 ≤ ext.2.2) :
    ∀ c ∈ TV.Generated.boxCorners,
      -ext.1 / 2 ≤ (boxVertex ext c).1 ∧ (boxVertex ext c).1 ≤ ext.1 / 2 ∧
      -ext.2.1 / 2 ≤ (boxVertex ext c).2.1 ∧ (boxVertex ext c).2.1 ≤ ext.2.1 / 2 ∧
      -ext.2.2 / 2 ≤ (boxVertex ext c).2.2 ∧ (boxVertex ext c).2.2 ≤ ext.2.2 / 2 := by
  intro c hc
  have hu : c.1 ≤ 1 ∧ c.2.1 ≤ 1 ∧ c.2.2 ≤ 1 :=
    (by decide : ∀ c ∈ TV.Generated.boxCorners, c.1 ≤ 1 ∧ c.2.1 ≤ 1 ∧ c.2.2 ≤ 1) c hc
  exact and_assoc.mp ⟨centred_bounds _ _ hu.1 h1, and_assoc.mp ⟨centred_bounds _ _ hu.2.1 h2, centred_bounds _ _ hu.2.2 h3⟩⟩

/-- **icosphere**: the icosahedron table is closed and consistently wound, and so is every subdivision of it
    (any symmetric midpoint numbering), hence `icosphere(subdivisions = n)` for every `n` -/
theorem C15_icosphere_closed (mid : Nat → Nat → Nat) (hsym : ∀ a b, mid a b = mid b a) (n : Nat) :
    TV.Remesh.Closed ((TV.Remesh.subdivideFaces mid)^[n] TV.Generated.icoFaces) := by
  induction n with
  | zero => exact ico_closed
  | succ n ih =>
    rw [Function.iterate_succ_apply']
    exact TV.Remesh.subdivide_closed mid hsym _ ih

/-- **a full-turn revolve of an axis-to-axis profile is closed and consistently wound for every number of
    profile points and every number of slices**: after the two axis points are merged, every directed edge of
    the faces `revolve` keeps is matched by its reverse -/
theorem C15_revolve_closed (per slices : Nat) (hper : 3 ≤ per) (hs : 3 ≤ slices) :
    TV.RevolveGrid.Closed (TV.RevolveGrid.revolveSurface per slices) := by
  open TV.RevolveGrid Finset in
  obtain ⟨m, rfl⟩ : ∃ m, per = m + 2 := ⟨per - 2, by omega⟩
  rw [closed_iff]
  -- `revolveSurface` unfolds to the grid on `vid` without the two triangles at the axis, merged by `ident`
  exact em_grid (m + 1) slices (· = 0) (· = m) (vid (m + 2) slices) (ident (m + 2)) ▸
    wrapped_closed (wv (m + 2) slices) (m + 1) slices
      (kept_closedUpTo _ m slices (fun j => (wv_axis m slices j).1) (fun j => (wv_axis m slices j).2))
      (wv_wrap (m + 2) slices)

/-- the faces of that theorem are exactly what the index arithmetic of `revolve` produces when the
    zero-area triangles at the axis (and the wrap-around quad) are dropped -/
theorem C15_revolve_grid_is_code (per slices : Nat) (hper : 3 ≤ per) (hs : 1 ≤ slices) :
    TV.RevolveGrid.gridFaces per slices =
      revolveFaces per slices (per * slices) (TV.RevolveGrid.axisKeep per) := by
  open TV.RevolveGrid in
  obtain ⟨m, rfl⟩ : ∃ m, per = m + 2 := ⟨per - 2, by omega⟩
  exact grid_eq_revolveFaces (m + 1) slices (· = 0) (· = m) (vid (m + 2) slices) _ _
    (fun i k hi _ => shift_mod (m + 2) slices i k hi) (fun i _ => axisKeep_even m i) (fun i _ => axisKeep_odd m i)


/-! ### extrusions -/

/-- **an extrusion is closed and consistently wound whatever the triangulation of the cap**: take any list of
    triangles in which no directed edge occurs twice (a consistently oriented triangulation: any polygon with any
    number of holes, any engine) and no triangle repeats a vertex.  The surface `extrude_triangulation` builds -
    reversed bottom cap, top cap, two wall triangles over every edge whose undirected edge occurs once - has
    every directed edge matched by its reverse: watertight with consistent winding, for every such cap -/
theorem C15_extrude_closed (cap : List TV.Extrude.Face) (hN : (TV.Extrude.dirEdges cap).Nodup)
    (hL : ∀ e ∈ TV.Extrude.dirEdges cap, e.1 ≠ e.2) :
    (TV.Extrude.dirEdges (TV.Extrude.extrude cap)).Perm
      ((TV.Extrude.dirEdges (TV.Extrude.extrude cap)).map Prod.swap) := by
  open TV.Extrude TV.RevolveGrid in
  -- `extrude cap` is the prism over `cap` with walls over its boundary, the edges whose reverse is absent
  have h := prism_closed cap (boundary cap) (boundary_eq cap hN hL ▸ nodup_closedUpTo cap hN)
  rw [List.map_map] at h
  exact (closed_iff _).mpr h

/-- under the same hypotheses the code's boundary test (the undirected edge occurs exactly once among all
    sorted edges) selects exactly the directed edges whose reverse is absent -/
theorem C15_extrude_boundary (cap : List TV.Extrude.Face) (hN : (TV.Extrude.dirEdges cap).Nodup)
    (hL : ∀ e ∈ TV.Extrude.dirEdges cap, e.1 ≠ e.2) :
    TV.Extrude.boundary cap =
      (TV.Extrude.dirEdges cap).filter (fun e => !(TV.Extrude.dirEdges cap).contains e.swap) :=
  TV.Extrude.boundary_eq cap hN hL

/-- non-vacuity: a square cut into two triangles meets the hypotheses; it has four boundary edges and
    extrudes to 2 + 2 + 8 triangles -/
example :
    let cap : List TV.Extrude.Face := [(0, 1, 2), (0, 2, 3)]
    (TV.Extrude.dirEdges cap).Nodup ∧ (∀ e ∈ TV.Extrude.dirEdges cap, e.1 ≠ e.2) ∧
    TV.Extrude.boundary cap = [(0, 1), (1, 2), (2, 3), (3, 0)] ∧ (TV.Extrude.extrude cap).length = 12 := by
  decide

/-- **a partial revolve with caps is closed and consistently wound for every number of sections, every profile
    length and every cap triangulation**: the profile runs from the axis to the axis (`per ≥ 3` points), the
    side walls are the triangles `revolve` keeps, `T` is the triangulation of the profile polygon placed on
    the first section and, shifted by `slices * per` and reversed (`np.fliplr`), on the last one.  The only
    thing asked of `T` is the decidable condition `capOk`: its directed edges are the polygon boundary in
    profile order plus interior edges in opposite pairs.  After the copies of the two axis points are merged
    every directed edge of the surface is matched by its reverse. -/
theorem C15_revolve_open_closed (per slices : Nat) (hper : 3 ≤ per) (T : List TV.RevolveGrid.Face)
    (hT : TV.RevolveGrid.capOk (per - 1) T = true) :
    TV.RevolveGrid.Closed (TV.RevolveGrid.openSurface per slices T) := by
  open TV.RevolveGrid Finset in
  obtain ⟨m, rfl⟩ : ∃ m, per = m + 2 := ⟨per - 2, by omega⟩
  rw [closed_iff]
  unfold openSurface openRaw
  rw [List.map_append, List.map_append, em_append, em_append,
    show em ((gridFacesO (m + 2) slices).map _) = _ from em_grid (m + 1) slices (· = 0) (· = m) (vidO (m + 2)) (ident (m + 2)),
    em_map, em_map, em_reverse, em_map, map_map_swap, Multiset.map_map (Prod.map _ _) (Prod.map _ _), Prod.map_comp_map]
  have h := open_capped_closed (wO (m + 2)) m slices (fun j => (wO_axis m j).1) (fun j => (wO_axis m j).2)
    (capOk_capEq (m + 1) T hT)
  -- merging places the cap on section 0, and its shifted copy on section `slices`
  rw [show (fun i => wO (m + 2) i 0) = ident (m + 2) from funext fun i => by simp [wO, vidO],
    show (fun i => wO (m + 2) i slices) = ident (m + 2) ∘ (· + slices * (m + 2)) from
      funext fun i => by simp [wO, vidO, Nat.add_comm]] at h
  exact h

/-- the cap condition in readable form: any triangulation whose directed edges are a reversal-closed multiset
    of interior edges plus the boundary `0 → 1 → … → n → 0` satisfies it -/
theorem C15_cap_condition (n : Nat) (T : List TV.RevolveGrid.Face) (h : TV.RevolveGrid.IsCap n T) :
    TV.RevolveGrid.CapEq n T := h.capEq

/-- the side walls of that theorem are exactly what the index arithmetic of `revolve` produces for a partial
    turn (`per * (slices + 1)` vertices) when the zero-area triangles at the axis are dropped -/
theorem C15_revolve_open_grid_is_code (per slices : Nat) (hper : 3 ≤ per) :
    TV.RevolveGrid.gridFacesO per slices =
      revolveFaces per slices (per * (slices + 1)) (TV.RevolveGrid.axisKeep per) := by
  open TV.RevolveGrid in
  obtain ⟨m, rfl⟩ : ∃ m, per = m + 2 := ⟨per - 2, by omega⟩
  exact grid_eq_revolveFaces (m + 1) slices (· = 0) (· = m) (vidO (m + 2)) _ _
    (shiftO_mod (m + 2) slices) (fun i _ => axisKeep_even m i) (fun i _ => axisKeep_odd m i)

/-- non-vacuity: a fan and a strip triangulation of a five-point profile both meet the cap condition, a
    triangulation wound the other way does not; the capped half-open surface of two sections is closed -/
example : TV.RevolveGrid.capOk 4 [(0, 1, 2), (0, 2, 3), (0, 3, 4)] = true
    ∧ TV.RevolveGrid.capOk 4 [(0, 1, 4), (1, 2, 3), (1, 3, 4)] = true
    ∧ TV.RevolveGrid.capOk 4 [(2, 1, 0), (3, 2, 0), (4, 3, 0)] = false
    ∧ TV.RevolveGrid.closedB (TV.RevolveGrid.openSurface 5 2 [(0, 1, 2), (0, 2, 3), (0, 3, 4)]) = true
    ∧ TV.RevolveGrid.closedB (TV.RevolveGrid.openSurface 5 2 [(2, 1, 0), (3, 2, 0), (4, 3, 0)]) = false := by
  decide +kernel

/-- **a full turn of a closed profile (annulus, any linestring that returns to its first point away from the
    axis) is closed and consistently wound**, for every profile length and every number of sections: both
    triangles of every profile segment are kept, the wrap-around quad is dropped, the last row of vertices is
    merged into the first -/
theorem C15_revolve_ring_closed (per slices : Nat) (hper : 2 ≤ per) :
    TV.RevolveGrid.Closed (TV.RevolveGrid.ringSurface per slices) := by
  open TV.RevolveGrid Finset in
  obtain ⟨m, rfl⟩ : ∃ m, per = m + 2 := ⟨per - 2, by omega⟩
  rw [closed_iff]
  -- `ringSurface` unfolds to the grid on `vid` with nothing dropped, merged by `identR`
  exact em_grid (m + 1) slices (fun _ => False) (fun _ => False) (vid (m + 2) slices) (identR (m + 2)) ▸
    wrapped_closed (wR (m + 2) slices) (m + 1) slices (ring_closedUpTo _ (m + 1) slices (wR_last m slices))
      (wR_wrap (m + 2) slices)

/-- the faces of that theorem are what the index arithmetic of `revolve` produces when exactly the two triangles
    of the wrap-around quad are dropped -/
theorem C15_revolve_ring_grid_is_code (per slices : Nat) (hper : 2 ≤ per) :
    TV.RevolveGrid.gridFacesR per slices =
      revolveFaces per slices (per * slices) (TV.RevolveGrid.ringKeep per) := by
  open TV.RevolveGrid Finset in
  obtain ⟨m, rfl⟩ : ∃ m, per = m + 2 := ⟨per - 2, by omega⟩
  refine grid_eq_revolveFaces (m + 1) slices (fun _ => False) (fun _ => False) (vid (m + 2) slices) _ _
    (fun i k hi _ => shift_mod (m + 2) slices i k hi) (fun i hi => ?_) (fun i hi => ?_)
  · simp only [ringKeep, decide_eq_true_eq, not_false_eq_true, true_and]
    omega
  · simp only [ringKeep, decide_eq_true_eq, not_false_eq_true, true_and]
    omega

/-- **a full turn of an open loop (the profile `torus` passes) is closed and consistently wound**: nothing is
    dropped and nothing merged, the statement is about the face array of the index model itself -/
theorem C15_revolve_torus_closed (per slices : Nat) (hper : 0 < per) :
    TV.RevolveGrid.Closed (revolveFaces per slices (per * slices) (fun _ => true)) := by
  open TV.RevolveGrid Finset in
  rw [closed_iff, em_revolveFaces_all per slices _ (vid per slices) (fun i k hi _ => shift_mod per slices i k hi)]
  refine wrapped_closed _ per slices (ring_closedUpTo _ per slices ?_) ?_
  · intro j
    simp
  · intro i
    simp [vid]

/-- **a partial turn of an open loop with caps is closed and consistently wound**, for every profile length,
    every number of sections and every cap triangulation that names profile points only and whose directed
    edges are the loop in profile order plus interior edges in opposite pairs.  (On the tree before the repair
    recorded for C15 the quad of the last profile point pointed one section further and this failed.) -/
theorem C15_revolve_loop_open_closed (per slices : Nat) (hper : 0 < per) (T : List TV.RevolveGrid.Face)
    (hT : TV.RevolveGrid.capOkC per T = true) (hR : TV.RevolveGrid.capInRange per T = true) :
    TV.RevolveGrid.Closed (TV.RevolveGrid.openLoopRaw per slices T) := by
  open TV.RevolveGrid Finset in
  have hT' := closedUpTo_of_isPerm _ _ hT
  rw [coe_bdC] at hT'
  rw [closed_iff]
  unfold openLoopRaw
  rw [em_append, em_append, em_revolveFaces_all per slices _ (vidO per) (shiftO_mod per slices), em_reverse, em_map]
  -- the cap sits on section 0 as it is, and its shifted copy on section `slices`
  refine capped_closed (c := 0) (ring_closedUpTo _ per slices ?_) (hT'.congr_right ?_)
    ((hT'.map (· + slices * per)).congr_right ?_)
  · intro j
    simp
  · simp [vidO]
  · rw [map_run]
    simp [vidO, Nat.add_comm]

/-- non-vacuity, and the index pattern before the repair as a counterexample: with the last quad joined to the
    first point of the slices after (`(i + 1, per + i, per + i + 1)` for `i = per - 1`) a capped half turn of a
    square loop is not closed -/
example : TV.RevolveGrid.capOkC 4 [(0, 1, 2), (0, 2, 3)] = true ∧ TV.RevolveGrid.capInRange 4 [(0, 1, 2), (0, 2, 3)] = true
    ∧ TV.RevolveGrid.closedB (TV.RevolveGrid.openLoopRaw 4 2 [(0, 1, 2), (0, 2, 3)]) = true
    ∧ TV.RevolveGrid.closedB (TV.RevolveGrid.ringSurface 5 3) = true
    ∧ TV.RevolveGrid.closedB (revolveFaces 4 3 12 (fun _ => true)) = true
    ∧ (let old : List Face := (List.range 2).flatMap (fun j => ((List.range 4).flatMap (fun i =>
          [(i, 4 + i, i + 1), (i + 1, 4 + i, 4 + i + 1)])).map
          (fun f => ((f.1 + j * 4) % 12, (f.2.1 + j * 4) % 12, (f.2.2 + j * 4) % 12)))
       TV.RevolveGrid.closedB (old ++ [(0, 1, 2), (0, 2, 3)] ++ [(10, 9, 8), (11, 10, 8)]) = false) := by
  decide +kernel

end TV.C15
