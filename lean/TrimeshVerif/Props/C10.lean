/-
C10 — Scene-level quantities equal explicit placement of every instance.
The lemmas they rest on are in Proofs/{Affine,Scene,ScenePerAxis,SceneAppend}.lean.
World transforms of nodes are the path products of C09; here: what the scene computes from them.
Over any linearly ordered field (bounds) / any field of characteristic zero (measures).
-/
import TrimeshVerif.Proofs.Scene
import TrimeshVerif.Proofs.ScenePerAxis
import TrimeshVerif.Proofs.GeomRat
import TrimeshVerif.Proofs.SceneAppend
namespace TV.C10
open TV.Mat3 TV.Affine TV.Scene

variable {K : Type} [Field K] [LinearOrder K] [IsStrictOrderedRing K]

/-- adding the translation after taking the minimum of the rotated points is the minimum of the placed
    points: the per-node corner computed by `bounds_corners` is the exact corner of the placed copy -/
theorem C10_node_bounds (i : Instance K) (p0 : V3 K) :
    nodeLower i p0 = lower (transformPoint i.L i.t p0) ((placed i)) ∧
    nodeUpper i p0 = upper (transformPoint i.L i.t p0) ((placed i)) := by
  constructor
  · simp only [nodeLower, lower, placed, List.foldl_map]
    exact (List.foldl_hom (add · i.t) (fun x y => (add_vmin x _ i.t).symm)).symm
  · simp only [nodeUpper, upper, placed, List.foldl_map]
    exact (List.foldl_hom (add · i.t) (fun x y => (add_vmax x _ i.t).symm)).symm

/-- the lower corner is a lower bound of every point, and (`C10_lower_attained`) is attained in every coordinate: `lower`
    is the exact lower corner of the point set.  The same holds of `upper` by the same proof with `max`; it is not
    stated -/
theorem C10_lower_is_bound (p : V3 K) (ps : List (V3 K)) :
    ∀ q ∈ p :: ps, (lower p ps).1 ≤ q.1 ∧ (lower p ps).2.1 ≤ q.2.1 ∧ (lower p ps).2.2 ≤ q.2.2 := by
  -- the three inequalities are `lower p ps ≤ q` in the product order
  induction ps generalizing p with
  | nil => exact List.forall_mem_singleton.2 (le_refl p)
  | cons x xs ih =>
    rw [lower_cons, vmin_eq_inf]
    exact List.forall_mem_cons.2 ⟨inf_le_left (a := p), fun q hq => (inf_le_right (a := p)).trans (ih x q hq)⟩

theorem C10_lower_attained (p : V3 K) (ps : List (V3 K)) :
    (∃ q ∈ p :: ps, (lower p ps).1 = q.1) ∧ (∃ q ∈ p :: ps, (lower p ps).2.1 = q.2.1) ∧
    (∃ q ∈ p :: ps, (lower p ps).2.2 = q.2.2) :=
  ⟨lower_attained (·.1) (fun _ _ => rfl) p ps, lower_attained (·.2.1) (fun _ _ => rfl) p ps,
    lower_attained (·.2.2) (fun _ _ => rfl) p ps⟩

/-- bounds of the union of all placed copies = the minimum over the per-node corners
    (`np.vstack(corners).min(axis=0)`): folding over the concatenation is folding over the parts -/
theorem C10_bounds_union (p : V3 K) (ps qs : List (V3 K)) :
    lower p (ps ++ qs) = vmin (lower p ps) (lower p qs) ∧ upper p (ps ++ qs) = vmax (upper p ps) (upper p qs) :=
  ⟨foldl_append_idem vmin vmin_assoc (inf_comm (α := V3 K)) (inf_idem (α := V3 K)) p ps qs,
    foldl_append_idem vmax vmax_assoc (sup_comm (α := V3 K)) (sup_idem (α := V3 K)) p ps qs⟩

/-- uniform scaling: every world placement is multiplied by `s` -/
theorem C10_scaled_uniform (s : K) (i : Instance K) :
    placed (scaledUniform s i) = (placed i).map (smul s) := by
  simp only [placed, scaledUniform, List.map_map]
  exact List.map_congr_left fun p _ => transformPoint_smul i.L i.t p s

/-- **per-axis scaling, partial**: `Scene.scaled([sx, sy, sz])` re-scales every geometry in its node's own frame and
    multiplies every edge translation by `S = diag(s)`.  Along any chain of edges whose linear parts all commute with
    `S` (unrotated frames, rotations about an axis whose other two factors are equal, ...) every placed point moves to
    `S · p`, as the property asks.  `p'` is the re-scaled geometry point: `hp` says `W p' = S (W p)` with `W` the linear
    part of the node's world matrix, i.e. `p' = W⁻¹ S W p`, the scaling done in the node's frame, without asking `W` to be
    invertible.  The full statement is false for the code (`C10_scaled_per_axis_witness`, next). -/
theorem C10_scaled_per_axis_partial (S : M3 K) (es : List (M3 K × V3 K)) (hc : ∀ e ∈ es, S * e.1 = e.1 * S)
    (p p' : V3 K) (hp : (chainWorld es).1.apply p' = S.apply ((chainWorld es).1.apply p)) :
    transformPoint (chainWorld (es.map (scaleEdge S))).1 (chainWorld (es.map (scaleEdge S))).2 p'
      = S.apply (transformPoint (chainWorld es).1 (chainWorld es).2 p) := by
  rw [chainWorld_scaled S es hc]
  simp only [transformPoint]
  rw [hp, apply_add]

/-- **witness that the commutation hypothesis is needed**: a node one unit along `x` below a frame turned by a quarter
    turn about `z`, scaled by `diag(1, 2, 3)`.  The recipe of the code (`scaleEdge` on every edge) places the origin of
    the node at `(0, 1, 0)`, where it was, not at `(0, 2, 0)` where the property wants it; trimesh returns the same on
    this scene (recorded finding `C10-scaled-per-axis-rotated`) -/
theorem C10_scaled_per_axis_witness :
    let S : M3 Rat := ⟨1, 0, 0, 0, 2, 0, 0, 0, 3⟩
    let es : List (M3 Rat × V3 Rat) := [(Rz 0 1, (0, 0, 0)), (1, (1, 0, 0))]
    transformPoint (chainWorld (es.map (scaleEdge S))).1 (chainWorld (es.map (scaleEdge S))).2 (0, 0, 0) = (0, 1, 0) ∧
    S.apply (transformPoint (chainWorld es).1 (chainWorld es).2 (0, 0, 0)) = (0, 2, 0) := by
  constructor <;>
    simp [chainWorld, scaleEdge, transformPoint, M3.apply, add, Rz, M3.mul_def, M3.one_def, M3.mul, M3.one]

/-- transforming the scene at the base frame moves every placed point through `M` -/
theorem C10_apply_transform (M : M3 K) (m : V3 K) (i : Instance K) :
    placed (transformed M m i) = (placed i).map (transformPoint M m) := by
  simp only [placed, transformed, List.map_map]
  exact List.map_congr_left fun p _ => transformPoint_comp M i.L m i.t p

/-- instance-weighted volume: an instance placed with linear part `L` contributes `det L` times the
    volume of its geometry per face (so `|det|` after orientation), which is what `Scene.volume` sums: the volume of
    each geometry times `|det|` of its instance's linear part (/repo commit 76beda9); for rigid placements the factor is
    one -/
theorem C10_instance_volume [CharZero K] (L : M3 K) (t a b c : V3 K) :
    ∃ h : V3 K → V3 K → K, (∀ u v, h u v + h v u = 0) ∧
      vol (transformPoint L t a) (transformPoint L t b) (transformPoint L t c)
        = L.det * vol a b c + (h a b + h b c + h c a) := by
  refine ⟨fun u v => vol t (L.apply u) (L.apply v), fun u v => vol_antisymm t _ _, ?_⟩
  rw [← vol_apply]
  exact vol_add t _ _ _

/-! ### the executable rational model run by the driver (Model/GeomRat.lean) -/
section rat
open TV.GeomRat

/-- what the driver evaluates is the generic definition at ℚ (by `rfl`) -/
theorem C10_rat_model_is_generic (i : InstanceR) (p0 : TV.GeomRat.V) (ps : List TV.GeomRat.V) :
    placedR i = TV.Scene.placed (toInst i) ∧ lowerR p0 ps = TV.Scene.lower p0 ps ∧
    upperR p0 ps = TV.Scene.upper p0 ps ∧ nodeLowerR i p0 = TV.Scene.nodeLower (toInst i) p0 ∧
    nodeUpperR i p0 = TV.Scene.nodeUpper (toInst i) p0 :=
  ⟨rfl, rfl, rfl, rfl, rfl⟩

theorem C10_rat_node_bounds (i : InstanceR) (p0 : TV.GeomRat.V) :
    nodeLowerR i p0 = lowerR (transformR i.L i.t p0) (placedR i) ∧
    nodeUpperR i p0 = upperR (transformR i.L i.t p0) (placedR i) :=
  C10_node_bounds (toInst i) p0

theorem C10_rat_lower_is_bound (p : TV.GeomRat.V) (ps : List TV.GeomRat.V) :
    ∀ q ∈ p :: ps, (lowerR p ps).1 ≤ q.1 ∧ (lowerR p ps).2.1 ≤ q.2.1 ∧ (lowerR p ps).2.2 ≤ q.2.2 :=
  C10_lower_is_bound p ps
end rat

/-! ### append_scenes: node renaming -/

section append
open TV.SceneAppend
variable {α : Type} [DecidableEq α]

/-- **appending never merges nodes of different scenes**: whatever the scenes, the `common` nodes and the names in
    use before, if the identifiers drawn are new (`gen` injective, never a node name of a scene, never a name already
    in use) then the renamed node names of two different scenes meet only in `common`, and no renamed name collides
    with a name in use before unless it is common -/
theorem C10_append_no_merge (gen : Nat → α) (hgen : ∀ a b, gen a = gen b → a = b) (common : List α)
    (ss : List (List α)) (consumed : List α) (ctr : Nat)
    (h1 : ∀ c, ctr ≤ c → gen c ∉ consumed) (h2 : ∀ c, ∀ s ∈ ss, gen c ∉ s) :
    (∀ A ∈ appendAll gen common consumed ctr ss, ∀ x ∈ A, x ∈ consumed → x ∈ common) ∧
    (appendAll gen common consumed ctr ss).Pairwise (fun A B => ∀ x ∈ A, x ∈ B → x ∈ common) := by
  induction ss generalizing consumed ctr with
  | nil => exact ⟨nofun, .nil⟩
  | cons s ss ih =>
    simp only [appendAll]
    obtain ⟨hinv, _, hout⟩ := remapAll_spec gen hgen common consumed ctr s [] ⟨[], [], ctr⟩
      (inv_init gen common consumed ctr)
    rw [List.nil_append] at hinv
    generalize remapAll gen common consumed ⟨[], [], ctr⟩ s = r at hinv hout ⊢
    have h1' : ∀ c, r.1.ctr ≤ c → gen c ∉ consumed ++ r.1.current := by
      intro c hc hm
      rcases List.mem_append.mp hm with hm | hm
      · exact h1 c (Nat.le_trans hinv.ctr_ge hc) hm
      · rcases hinv.cur_src _ hm with h | ⟨c', _, hlt, he⟩
        · exact h2 c s List.mem_cons_self h
        · have := hgen _ _ he; omega
    have ih := ih _ _ h1' (fun c t ht => h2 c t (List.mem_cons_of_mem _ ht))
    rw [hout]
    refine ⟨List.forall_mem_cons.mpr ⟨?_, fun A hA x hx hc => ih.1 A hA x hx (List.mem_append_left _ hc)⟩,
      List.pairwise_cons.mpr ⟨?_, ih.2⟩⟩
    · -- a name of this scene that was in use before: not a drawn identifier, so the node itself, not renamed
      intro x hx hc
      obtain ⟨n, hn, rfl⟩ := List.mem_map.mp hx
      cases hl : r.1.mapNode.lookup n with
      | some v =>
        obtain ⟨c, hc1, _, hc2⟩ := hinv.map_vals _ (mem_of_lookup_eq_some hl)
        rw [name_of_some hl, show v = gen c from hc2] at hc
        exact absurd hc (h1 c hc1)
      | none =>
        rw [name_of_none hl] at hc ⊢
        simpa [ren, hc] using hinv.seen_ren n hn hl
    · intro B hB x hx hxB
      obtain ⟨n, hn, rfl⟩ := List.mem_map.mp hx
      exact ih.1 B hB _ hxB (List.mem_append_right _ (hinv.seen_cur n hn))

/-- **inside one scene the renaming is a one-to-one function of the node name**: two occurrences get the same new
    name exactly when they are the same node (so the appended copy of the scene has the same graph) -/
theorem C10_append_scene_injective (gen : Nat → α) (hgen : ∀ a b, gen a = gen b → a = b) (common consumed : List α)
    (ctr : Nat) (ns : List α) (hnames : ∀ c, gen c ∉ ns) (i j : Nat) (n n' o o' : α)
    (hi : ns[i]? = some n) (hj : ns[j]? = some n')
    (ho : (remapAll gen common consumed ⟨[], [], ctr⟩ ns).2[i]? = some o)
    (ho' : (remapAll gen common consumed ⟨[], [], ctr⟩ ns).2[j]? = some o') :
    o = o' ↔ n = n' := by
  obtain ⟨hinv, _, hout⟩ := remapAll_spec gen hgen common consumed ctr ns [] ⟨[], [], ctr⟩
    (inv_init gen common consumed ctr)
  generalize remapAll gen common consumed ⟨[], [], ctr⟩ ns = r at hinv hout ho ho'
  rw [hout, List.getElem?_map] at ho ho'
  rw [hi] at ho
  rw [hj] at ho'
  cases ho
  cases ho'
  refine ⟨fun e => ?_, fun e => by rw [e]⟩
  -- a table entry is a drawn identifier, hence no node name of the scene
  have hne : ∀ {m v y : α}, r.1.mapNode.lookup m = some v → y ∈ ns → v ≠ y := fun hv hy e => by
    obtain ⟨c, _, _, hc⟩ := hinv.map_vals _ (mem_of_lookup_eq_some hv)
    exact hnames c (hc ▸ e ▸ hy)
  cases h1 : r.1.mapNode.lookup n <;> cases h2 : r.1.mapNode.lookup n'
  · rwa [name_of_none h1, name_of_none h2] at e
  · rw [name_of_none h1, name_of_some h2] at e
    exact absurd e.symm (hne h2 (List.mem_of_getElem? hi))
  · rw [name_of_some h1, name_of_none h2] at e
    exact absurd e (hne h1 (List.mem_of_getElem? hj))
  · rw [name_of_some h1, name_of_some h2] at e
    exact congrArg Prod.fst (hinv.map_inj _ (mem_of_lookup_eq_some h1) _ (mem_of_lookup_eq_some h2) e)

/-- non-vacuity: three scenes that all use the node names 1 and 2 under the common frame 0 -/
example : appendAll (fun k => 100 + k) [0] [] 0 [[0, 1, 1, 2], [0, 1, 1, 2], [0, 1, 1, 2]] =
    [[0, 1, 1, 2], [0, 100, 100, 101], [0, 102, 102, 103]] := by decide

end append

end TV.C10
