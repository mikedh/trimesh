/-
C18 — Repair and subdivision keep the surface and restore validity.
The lemmas they rest on are in Proofs/{Remesh,ToSize,Winding}.lean.
Geometry over any field of characteristic zero; index bookkeeping over Nat with an arbitrary symmetric
midpoint numbering (one new vertex per undirected edge, as `unique_rows(sorted edges)` provides).
Besides the property theorems the file defines `corner`, `stackedRow`, `triples`: `np.column_stack([...])` followed by
`.reshape((-1, 3))` on one face row, in which `C18_child_pattern_of_source` states that the source builds the model's
children.
-/
import TrimeshVerif.Proofs.Remesh
import TrimeshVerif.Proofs.GeomRat
import TrimeshVerif.Proofs.Winding
import TrimeshVerif.Proofs.ToSize
import TrimeshVerif.Generated.C18Table
import Mathlib.Tactic.IntervalCases
namespace TV.C18
open TV.Mat3 TV.Moments TV.Affine TV.Remesh

variable {K : Type} [Field K] [CharZero K]

/-- each of the four children has a quarter of the parent's area vector: same plane, same orientation,
    a quarter of the area — so the total area of the surface is preserved exactly -/
theorem C18_children_area (a b c : V3 K) :
    ∀ t ∈ children a b c, smul 4 (areaVec t) = areaVec (a, b, c) := by
  intro t ht
  simp only [children, List.mem_cons, List.not_mem_nil, or_false] at ht
  rcases ht with rfl | rfl | rfl | rfl <;>
    (simp only [smul, areaVec, cross, sub, midpoint, Prod.mk.injEq]
     refine ⟨?_, ?_, ?_⟩ <;> ring)

/-- the exact moments (volume, first and second moments) of the four children add up to the parent's:
    volume, centre of mass and inertia of the solid are preserved -/
theorem C18_children_moments (a b c : V3 K) (i : Nat) (hi : i < 10) :
    ((children a b c).map (fun t => (moments t).getD i 0)).sum = (moments (a, b, c)).getD i 0 := by
  obtain ⟨h1, h2, h3, h4⟩ := det3_children a b c
  simp only [children, moments, List.map_cons, List.map_nil, List.sum_cons, List.sum_nil,
    T0, T1, T2, T3, T4, T5, T6, T7, T8, T9, h1, h2, h3, h4]
  interval_cases i
  · simp only [List.getD_cons_zero]; ring
  -- the sums are in the right-nested form of `lin_children` / `q2_children`; `[x₀, x₁, …].getD 1 0` is `x₁` and
  -- `(midpoint a b).1` is `(a.1 + b.1) / 2` by unfolding, and so on
  · exact lin_children ..
  · exact lin_children ..
  · exact lin_children ..
  · exact q2_children ..
  · exact q2_children ..
  · exact q2_children ..
  · exact q2_children ..
  · exact q2_children ..
  · exact q2_children ..

/-- **watertightness and winding are preserved**: if every directed edge of the mesh is matched by its
    reverse, the same holds after subdividing every face, for any symmetric midpoint numbering -/
theorem C18_subdivide_closed (mid : Nat → Nat → Nat) (hsym : ∀ a b, mid a b = mid b a)
    (fs : List Face) (h : Closed fs) : Closed (subdivideFaces mid fs) :=
  subdivide_closed mid hsym fs h

/-- counts: four times the faces; with `V` vertices, `E` undirected edges and `F` faces before, there are
    `V + E` vertices, `2E + 3F` edges and `4F` faces after, so the Euler number is unchanged -/
theorem C18_counts (mid : Nat → Nat → Nat) (fs : List Face) (V E : Nat) :
    (subdivideFaces mid fs).length = 4 * fs.length ∧
    ((V + E : Int) - (2 * E + 3 * fs.length : Int) + (4 * fs.length : Int) = (V : Int) - E + fs.length) :=
  ⟨by simp [subdivideFaces, childFaces, List.length_flatMap, Nat.mul_comm], by omega⟩

/-- the original corner stays a corner: every original vertex index is still used (by the first three
    children) and the children only use original corners and edge midpoints -/
theorem C18_children_corners (mid : Nat → Nat → Nat) (f : Face) :
    (childFaces mid f).map (·.1) ++ (childFaces mid f).map (·.2.1) ++ (childFaces mid f).map (·.2.2)
      = [f.1, mid f.1 f.2.1, mid f.2.2 f.1, mid f.1 f.2.1,
         mid f.1 f.2.1, f.2.1, mid f.2.1 f.2.2, mid f.2.1 f.2.2,
         mid f.2.2 f.1, mid f.2.1 f.2.2, f.2.2, mid f.2.2 f.1] := by
  rfl

/-- an edge of a child is half as long as a parallel edge of the parent (squared lengths: a quarter),
    which is why repeated subdivision reaches any positive edge bound -/
theorem C18_child_edge_quarter (a b c : V3 K) :
    dot (sub (midpoint a b) a) (sub (midpoint a b) a) * 4 = dot (sub b a) (sub b a) ∧
    dot (sub (midpoint a b) (midpoint c a)) (sub (midpoint a b) (midpoint c a)) * 4 = dot (sub b c) (sub b c) :=
  ⟨(TV.ToSize.len2_mid a b c).1, (TV.ToSize.len2_mid c a b).2.2.1⟩

/-- reversing a face negates its area vector and its volume contribution: re-winding never moves a
    vertex or changes the unordered triangle, and a body is outward wound iff its signed volume is positive -/
theorem C18_reverse_face (a b c : V3 K) :
    areaVec (a, c, b) = smul (-1) (areaVec (a, b, c)) ∧ vol a c b = - vol a b c := by
  refine ⟨?_, vol_swap a b c⟩
  simp only [areaVec, smul, cross, sub, Prod.mk.injEq]
  refine ⟨?_, ?_, ?_⟩ <;> ring

/-! ### the executable rational model run by the driver (Model/GeomRat.lean) -/
section rat
open TV.GeomRat

/-- what the driver evaluates is the generic definition at ℚ (by `rfl`) -/
theorem C18_rat_model_is_generic (a b c : TV.GeomRat.V) (mid : Nat → Nat → Nat) (f : TV.GeomRat.Face) :
    childrenR a b c = TV.Remesh.children a b c ∧ childFacesN mid f = TV.Remesh.childFaces mid f :=
  ⟨rfl, rfl⟩

theorem C18_rat_children (a b c : TV.GeomRat.V) :
    (∀ t ∈ childrenR a b c, smulV 4 (areaVecR t) = areaVecR (a, b, c)) ∧
    meshVolR (childrenR a b c) = volR a b c :=
  ⟨C18_children_area a b c, C18_children_moments a b c 0 (by decide)⟩

/-- subdividing every face of any triangle list keeps the signed volume exactly -/
theorem C18_rat_subdivide_volume (ts : List TV.GeomRat.Tri) : meshVolR (subdivideR ts) = meshVolR ts := by
  induction ts with
  | nil => rfl
  | cons t ts ih =>
    have h := (C18_rat_children t.1 t.2.1 t.2.2).2
    simp only [meshVolR, subdivideR, List.flatMap_cons, List.map_append, List.sum_append, List.map_cons,
      List.sum_cons] at ih h ⊢
    rw [ih, h]
end rat

/-! ### fix_winding: the traversal -/

section winding
open TV.Winding

/-- **`fix_winding` is correct and order independent**: take the adjacent face pairs `adj`, for each pair
    whether the shared edge runs the same way in both faces (`w`, symmetric), and *any* list of tree edges
    in search order (`treeOrder`: every child is new) that lie in `adj` and connect the two faces of every
    adjacent pair.  If the surface is orientable at all (some choice of reversals `y` makes every adjacent
    pair consistent) then the reversals the traversal makes - look at the pair, reverse the child when the
    shared edge is not opposed - leave every adjacent pair consistent, whatever the start faces, the order
    of the components and the order of the edges handed out -/
theorem C18_fix_winding (w : SameDir) (adj tree : List (Nat × Nat)) (h : treeOrder tree [] = true)
    (hspan : ∀ e ∈ adj, TConn tree e.1 e.2)
    (y : Flips) (hy : ∀ e ∈ adj, inconsistent w y e.1 e.2 = false)
    (hsub : ∀ e ∈ tree, e ∈ adj ∨ (e.2, e.1) ∈ adj) (hsym : ∀ f g, w f g = w g f) :
    ∀ e ∈ adj, inconsistent w (traverse w tree) e.1 e.2 = false := by
  have ht : ∀ e ∈ tree, inconsistent w (traverse w tree) e.1 e.2 = false :=
    (traverse_inv w tree [] (fun _ => false) h).2
  have hy' : ∀ e ∈ tree, inconsistent w y e.1 e.2 = false := fun e he =>
    (hsub e he).elim (hy e) fun h1 => inconsistent_swap w y e.1 e.2 (hsym _ _) ▸ hy _ h1
  -- `traverse ⊕ y` takes the same value at the two ends of every tree edge, hence of every tree path
  have hz : ∀ e ∈ tree, bxor (traverse w tree e.1) (y e.1) = bxor (traverse w tree e.2) (y e.2) :=
    fun e he => (consistent_iff w (traverse w tree) y _ _ (hy' e he)).mp (ht e he)
  exact fun e he => (consistent_iff w _ y _ _ (hy e he)).mpr
    (TConn.const (z := fun f => bxor (traverse w tree f) (y f)) hz (hspan e he))

/-- two consistent windings `x1`, `x2` of the same surface: `x1 ⊕ x2` takes the same value on the two faces of every
    adjacent pair.  That is what is stated.  Its consequence, not stated: `x1 ⊕ x2` is constant along every path of
    adjacent faces (`TConn.const`, as in `C18_fix_winding`), so the windings differ by reversing whole connected
    components, and the result of `fix_winding` is determined up to the orientation of each body, which
    `fix_inversion` then settles by the sign of the volume -/
theorem C18_winding_unique_up_to_components (w : SameDir) (adj : List (Nat × Nat)) (x1 x2 : Flips)
    (h1 : ∀ e ∈ adj, inconsistent w x1 e.1 e.2 = false) (h2 : ∀ e ∈ adj, inconsistent w x2 e.1 e.2 = false) :
    ∀ e ∈ adj, bxor (x1 e.1) (x2 e.1) = bxor (x1 e.2) (x2 e.2) :=
  fun e he => (consistent_iff w x1 x2 _ _ (h2 e he)).mp (h1 e he)

/-- what the driver runs (flips kept as a list) is the traversal of `C18_fix_winding` -/
theorem C18_driver_traversal (w : SameDir) (n : Nat) (tree : List (Nat × Nat)) (hn : ∀ e ∈ tree, e.2 < n) :
    ∀ i, look (traverseL w n tree) i = traverse w tree i := by
  have h0 : look (List.replicate n false) = fun _ => false := by
    funext j
    by_cases hj : j < n <;> simp [look, List.getD_eq_getElem?_getD, hj]
  unfold traverseL traverse
  rw [look_foldl_stepL w tree _ (by simpa using hn), h0]
  exact fun _ => rfl

/-- non-vacuity: a tetrahedron with face 2 reversed (every pair involving face 2 runs the same way);
    a search tree from face 0 satisfies the hypotheses and the traversal reverses exactly face 2 -/
example :
    let adj := [(0, 1), (0, 2), (0, 3), (1, 2), (1, 3), (2, 3)]
    let w := sameDirOf [((0, 2), true), ((1, 2), true), ((2, 3), true)]
    let tree := [(0, 1), (0, 2), (0, 3)]
    treeOrder tree [] = true ∧ allConsistent w (traverse w tree) adj = true ∧
      (List.range 4).map (traverse w tree) = [false, false, true, false] := by decide

end winding

/-! ### subdivide_to_size -/

section tosize
open TV.ToSize
variable {F : Type} [Field F] [LinearOrder F] [IsStrictOrderedRing F]

/-- **size-bounded subdivision leaves no edge longer than the bound, and ends**: run one face through the loop of
    `subdivide_to_size` (a face with an edge longer than the bound is replaced by its four children, at most `fuel =
    max_iter` times; lengths compared as squares).  Every triangle of a successful result has all edges within the
    bound; every child's longest edge is exactly half its parent's; and the loop succeeds - no "max_iter exceeded" -
    whenever the longest edge is at most `2^max_iter` times the bound.  The proof does not use `hm` -/
theorem C18_to_size (m2 : F) (hm : 0 ≤ m2) (fuel : Nat) (t : TV.ToSize.Tri F) :
    (∀ ts, toSize m2 fuel t = some ts → ∀ t' ∈ ts, maxEdge2 t' ≤ m2) ∧
    (∀ ch ∈ TV.Remesh.children t.1 t.2.1 t.2.2, maxEdge2 ch * 4 = maxEdge2 t) ∧
    (maxEdge2 t ≤ m2 * 4 ^ fuel → ∃ ts, toSize m2 fuel t = some ts) :=
  ⟨fun ts h t' ht' => toSize_small m2 fuel t ts h t' ht', fun ch hch => child_maxEdge2 t.1 t.2.1 t.2.2 ch hch,
   fun h => toSize_succeeds m2 fuel t h⟩

/-- what the driver runs on the harness's triangles is the subdivision of `C18_to_size` at ℚ -/
theorem C18_rat_to_size (m2 : Rat) (fuel : Nat) (t : TV.GeomRat.Tri) :
    TV.GeomRat.toSizeR m2 fuel t = toSize m2 fuel t :=
  TV.GeomRat.toSizeR_eq m2 fuel t

/-- non-vacuity: a right triangle with legs 4 and bound 2 (squared: 4) needs two rounds and yields 16 triangles -/
example : (toSize (4 : ℚ) 2 (((0, 0, 0), (4, 0, 0), (0, 4, 0)) : TV.ToSize.Tri ℚ)).map List.length = some 16 ∧
    toSize (4 : ℚ) 1 (((0, 0, 0), (4, 0, 0), (0, 4, 0)) : TV.ToSize.Tri ℚ) = none := by
  constructor <;> decide +kernel

end tosize

section source_pattern

/-- column `k` of a face row -/
def corner (f : Face) : Nat → Nat
  | 0 => f.1
  | 1 => f.2.1
  | _ => f.2.2

/-- one row of `np.column_stack([...])` for face `f`: a face column, or the midpoint of the edge that
    `faces_to_edges` lists at position `k` (its two end-point columns are `cols[2k]`, `cols[2k+1]`) -/
def stackedRow (pat : List (Bool × Nat)) (cols : List Nat) (mid : Nat → Nat → Nat) (f : Face) : List Nat :=
  pat.map (fun p => if p.1 then mid (corner f (cols.getD (2 * p.2) 0)) (corner f (cols.getD (2 * p.2 + 1) 0))
                    else corner f p.2)

/-- `.reshape((-1, 3))` -/
def triples : List Nat → List Face
  | a :: b :: c :: t => (a, b, c) :: triples t
  | _ => []

/-- **(G) the child faces `remesh.subdivide` stacks are the model's**: the column pattern of the
    `np.column_stack` call and the edge order of `geometry.faces_to_edges`, both regenerated from the source by `ast` on
    every run (Generated/C18Table.lean), produce for every face and every midpoint numbering exactly `childFaces` -
    the four children `[a, m_ab, m_ca], [m_ab, b, m_bc], [m_ca, m_bc, c], [m_ab, m_bc, m_ca]` every C18 subdivision
    theorem is about -/
theorem C18_child_pattern_of_source (mid : Nat → Nat → Nat) (f : Face) :
    triples (stackedRow TV.Generated.C18.childPattern TV.Generated.C18.edgeColumns mid f) = childFaces mid f := rfl

end source_pattern

end TV.C18
