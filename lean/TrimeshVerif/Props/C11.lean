/-
C11 — Plane sections lie on plane and surface; slices partition the solid.
Four parts: the sign tables (`C11_cases`, `C11_slice_cases`, `C11_case_table_of_source`); the geometry on two tracks
that no theorem connects, the field track and the rational track (Proofs/Slice.lean says which is what and why there
is no bridge); and the count of segment ends per crossed edge for a whole section, on the index level
(Proofs/SectionLoops.lean).
-/
import TrimeshVerif.Proofs.Slice
import TrimeshVerif.Proofs.Remesh
import TrimeshVerif.Proofs.SliceRat
import TrimeshVerif.Proofs.SlicePieces
import TrimeshVerif.Proofs.SectionLoops
import TrimeshVerif.Generated.C11Table
namespace TV.C11
open TV.Mat3 TV.Affine TV.Remesh TV.Slice

/-- **the sign coding classifies all 27 patterns correctly**: `basic` ⇔ no corner on the plane and the
    corners are not all on one side; `one_vertex` ⇔ exactly one corner on the plane and the other two on
    opposite sides; `one_edge` ⇔ exactly two corners on the plane and the third on the positive side
    (so an edge lying in the plane is reported once, by the face above it); otherwise no segment -/
theorem C11_cases :
    allTriples.all (fun t =>
      let a := t.1; let b := t.2.1; let c := t.2.2
      (isBasic a b c == (zeros a b c == 0 && !(a == b && b == c))) &&
      (isOneVertex a b c == (zeros a b c == 1 && a + b + c == 0)) &&
      (isOneEdge a b c == (zeros a b c == 2 && a + b + c == 1)) &&
      -- the three cases are mutually exclusive
      !((isBasic a b c && isOneVertex a b c) || (isBasic a b c && isOneEdge a b c) ||
        (isOneVertex a b c && isOneEdge a b c))) = true := by
  decide

/-- **the slice classification of `slice_faces_plane` is right for all 27 patterns** (sign +1 = negative
    side there): a triangle is cut ⇔ it has corners strictly on both sides; it is kept whole ⇔ no corner is
    on the negative side; a cut triangle leaves a quad ⇔ two corners are on the positive side and a triangle
    otherwise; kept, cut and dropped are exclusive; a triangle is kept by one of the two opposite slices
    (signs negated) unless it is cut by both or lies in the plane -/
theorem C11_slice_cases :
    allTriples.all (fun t =>
      let a := t.1; let b := t.2.1; let c := t.2.2
      let neg := [a, b, c].count 1; let pos := [a, b, c].count (-1)
      (onEdge a b c == (decide (0 < neg) && decide (0 < pos))) &&
      (inside a b c == (neg == 0)) &&
      (cutQuad a b c == (onEdge a b c && pos == 2)) &&
      (cutTri a b c == (onEdge a b c && pos == 1)) &&
      !(inside a b c && onEdge a b c) &&
      (onEdge a b c == onEdge (-a) (-b) (-c)) &&
      -- a face not cut and not in the plane goes to exactly one side
      (onEdge a b c || zeros a b c == 3 || (inside a b c != inside (-a) (-b) (-c))) &&
      -- the pieces of a cut face: quad on one side <-> triangle on the other, unless a corner is on the plane
      (!(onEdge a b c) || zeros a b c == 1 || (cutQuad a b c == cutTri (-a) (-b) (-c)))) = true := by
  decide

/-! ### the field track: geometry of any plane and triangle over an ordered field (Proofs/Slice.lean)

These say why a section or a slice is right in principle; they do not mention the code's handlers.  `sdist`, `edgePoint`
and the quad split `(p, b, c) + (p, c, q)` of `C11_slice_partition` are not the code's `sdistR`, `edgePointR` and split
(other argument order, other diagonal), and nothing below transfers to the `C11_rat_*` theorems or back. -/

section field
variable {K : Type} [Field K] [LinearOrder K] [IsStrictOrderedRing K]

/-- **every returned endpoint lies on the plane and on a mesh edge**: for an edge whose ends are strictly on
    opposite sides, the crossing point satisfies `n · (p − o) = 0` and is `a + t (b − a)` with `0 < t < 1` -/
theorem C11_on_plane_on_edge (n o a b : V3 K) (ha : 0 < sdist n o a) (hb : sdist n o b < 0) :
    sdist n o (edgePoint n o a b) = 0 ∧ 0 < edgeParam n o a b ∧ edgeParam n o a b < 1 := by
  have hd : 0 < sdist n o a - sdist n o b := sub_pos.mpr (hb.trans ha)
  exact ⟨sdist_edgePoint n o a b hd.ne', div_pos ha hd,
    (div_lt_one hd).mpr (lt_sub_iff_add_lt.mpr (add_lt_of_neg_right _ hb))⟩

/-- the same with the roles of the two sides exchanged -/
theorem C11_on_plane_on_edge' (n o a b : V3 K) (ha : sdist n o a < 0) (hb : 0 < sdist n o b) :
    sdist n o (edgePoint n o a b) = 0 ∧ 0 < edgeParam n o a b ∧ edgeParam n o a b < 1 := by
  have hd : sdist n o a - sdist n o b < 0 := sub_neg.mpr (ha.trans hb)
  exact ⟨sdist_edgePoint n o a b hd.ne, div_pos_of_neg_of_neg ha hd, (div_lt_one_of_neg hd).mpr (sub_lt_self _ hb)⟩

/-- points of a segment inherit the side of its ends: a piece cut off between corner `a` (non-negative side)
    and crossing points stays in the closed positive half space -/
theorem C11_lerp_side (n o a b : V3 K) (s : K) (hs0 : 0 ≤ s) (hs1 : s ≤ 1)
    (ha : 0 ≤ sdist n o a) (hb : 0 ≤ sdist n o b) : 0 ≤ sdist n o (lerp a b s) := by
  rw [sdist_lerp]
  exact add_nonneg (mul_nonneg (sub_nonneg.mpr hs1) ha) (mul_nonneg hs0 hb)

/-- the pieces are coplanar with the triangle and keep its orientation when `0 ≤ s, u ≤ 1`:
    each piece's area vector is a non-negative multiple of the triangle's -/
theorem C11_pieces_oriented (a b c : V3 K) (s u : K) :
    let p := lerp a b s; let q := lerp a c u
    areaVec (a, p, q) = smul (s * u) (areaVec (a, b, c)) ∧
    areaVec (p, b, c) = smul (1 - s) (areaVec (a, b, c)) ∧
    areaVec (p, c, q) = smul (s * (1 - u)) (areaVec (a, b, c)) := by
  obtain ⟨a1, a2, a3⟩ := a
  obtain ⟨b1, b2, b3⟩ := b
  obtain ⟨c1, c2, c3⟩ := c
  simp only [areaVec, lerp, cross, add, smul, sub, Prod.mk.injEq]
  refine ⟨⟨?_, ?_, ?_⟩, ⟨?_, ?_, ?_⟩, ?_, ?_, ?_⟩ <;> ring

/-- **slices partition the triangle**: cutting triangle (a, b, c) at a point `p` of edge ab and a point `q`
    of edge ac gives the corner piece (a, p, q) and the quad (p, b, c, q) = (p, b, c) + (p, c, q); their area
    vectors add up to the triangle's, so the areas of the two opposite slices add up to the original area -/
theorem C11_slice_partition (a b c : V3 K) (s u : K) :
    let p := lerp a b s; let q := lerp a c u
    add (areaVec (a, p, q)) (add (areaVec (p, b, c)) (areaVec (p, c, q))) = areaVec (a, b, c) := by
  obtain ⟨h1, h2, h3⟩ := C11_pieces_oriented a b c s u
  dsimp only at h1 h2 h3 ⊢
  rw [h1, h2, h3]
  obtain ⟨x, y, z⟩ := areaVec (a, b, c)
  simp only [add, smul, Prod.mk.injEq]
  refine ⟨?_, ?_, ?_⟩ <;> ring

/-- volumes of the two capped halves add up: with the same split, the signed-tetrahedron volumes of the
    pieces add up to the triangle's (the two caps are the same polygon with opposite orientation and
    cancel), so `V₊ + V₋ = V` -/
theorem C11_slice_volume [CharZero K] (a b c : V3 K) (s u : K) :
    let p := lerp a b s; let q := lerp a c u
    vol a p q + (vol p b c + vol p c q) = vol a b c := by
  obtain ⟨a1, a2, a3⟩ := a
  obtain ⟨b1, b2, b3⟩ := b
  obtain ⟨c1, c2, c3⟩ := c
  simp only [vol, lerp, add, smul, sub, TV.Moments.T0, TV.Moments.det3]
  ring

/-- parallel planes reuse the dot products: for a unit normal, the distance to the plane shifted by `h`
    along the normal is the cached distance minus `h` (`mesh_multiplane`) -/
theorem C11_shifted_plane (n o p : V3 K) (h : K) (hn : dot n n = 1) :
    sdist n (add o (smul h n)) p = sdist n o p - h := by
  rw [sdist_shift, hn, mul_one]

end field

/-! ### the rational track: the per-triangle handlers as written (Model/Slice.lean, Proofs/SliceRat.lean,
    Proofs/SlicePieces.lean)

`sectionTri` and `sliceTri` follow `mesh_plane` and `slice_faces_plane` step by step - tolerance band, case table,
rotation of the corner indices, quad split `[0,1,2], [2,3,0]` - and the driver runs them on every face of every section
case and compares with trimesh.  A statement about what the code returns is proved here, about these definitions. -/

/-- **every endpoint `mesh_plane` emits lies on the plane** up to the tolerance band used for the signs
    (exactly on it for crossing points), for every triangle, plane and tolerance -/
theorem C11_rat_section_on_plane (tol : Rat) (htol : 0 ≤ tol) (n o : TV.Slice.V) (t : TV.Slice.Tri)
    (p q : TV.Slice.V) (h : sectionTri tol n o t = some (p, q)) :
    absR (sdistR n o p) ≤ tol ∧ absR (sdistR n o q) ≤ tol := by
  have H := section_ends tol htol n o t p q h (fun x => absR (sdistR n o x) ≤ tol) (fun i hi => absR_le _ _ hi.1 hi.2)
    (fun i j hij => by
      rw [edgePointR_on_plane n o _ _ (hij.elim (fun h => ne_of_lt (by linarith)) (fun h => ne_of_gt (by linarith)))]
      exact absR_le _ _ (by linarith) htol)
  exact ⟨H p (by simp), H q (by simp)⟩

/-- **and on the mesh surface**: it is a corner of the triangle or a point of one of its edges -/
theorem C11_rat_section_on_triangle (tol : Rat) (htol : 0 ≤ tol) (n o : TV.Slice.V) (t : TV.Slice.Tri)
    (p q : TV.Slice.V) (h : sectionTri tol n o t = some (p, q)) :
    ∀ x ∈ [p, q], ∃ (u v : TV.Slice.V) (s : Rat), u ∈ [t.1, t.2.1, t.2.2] ∧ v ∈ [t.1, t.2.1, t.2.2] ∧
      0 ≤ s ∧ s ≤ 1 ∧ x = TV.Slice.addV u (TV.Slice.smulV s (TV.Slice.subV v u)) := by
  refine section_ends tol htol n o t p q h _ (fun i _ => ?_) (fun i j hij => ?_)
  · refine ⟨_, _, 0, nth_mem t i, nth_mem t i, le_refl _, zero_le_one, ?_⟩
    simp [TV.Slice.addV, TV.Slice.smulV, TV.Slice.subV]
  · obtain ⟨s, hs0, hs1, hs⟩ := edgePointR_between tol htol n o (nth t i) (nth t j) hij
    exact ⟨_, _, s, nth_mem t i, nth_mem t j, hs0.le, hs1.le, hs⟩

/-- a triangle strictly on one side of the plane contributes no segment -/
theorem C11_rat_section_none (tol : Rat) (htol : 0 ≤ tol) (n o : TV.Slice.V) (t : TV.Slice.Tri)
    (h : (tol < sdistR n o t.1 ∧ tol < sdistR n o t.2.1 ∧ tol < sdistR n o t.2.2) ∨
         (sdistR n o t.1 < -tol ∧ sdistR n o t.2.1 < -tol ∧ sdistR n o t.2.2 < -tol)) :
    sectionTri tol n o t = none := by
  unfold sectionTri
  simp only []
  rcases h with ⟨h1, h2, h3⟩ | ⟨h1, h2, h3⟩
  · rw [(signR_eq_one _ _ htol).2 h1, (signR_eq_one _ _ htol).2 h2, (signR_eq_one _ _ htol).2 h3]
    rfl
  · rw [(signR_eq_neg_one _ _).2 h1, (signR_eq_neg_one _ _).2 h2, (signR_eq_neg_one _ _).2 h3]
    rfl

/-- **slicing returns only the part on the positive side**: every corner of every piece `slice_faces_plane`
    keeps of a triangle is at most `tol` below the plane -/
theorem C11_rat_slice_positive (tol : Rat) (htol : 0 ≤ tol) (n o : TV.Slice.V) (t : TV.Slice.Tri) :
    ∀ piece ∈ keptTris t (sliceTri tol n o t), ∀ x ∈ corners piece, -tol ≤ sdistR n o x := by
  have h := planOf_spec tol htol n o t
  rw [sliceTri_eq_run]
  generalize planOf tol n o t = p at h
  -- `inPlane` and `dropped` keep nothing
  cases p <;>
    simp only [Plan.run, keptTris, corners, cutPoint, nth_add_three, List.mem_cons, List.not_mem_nil, or_false,
      false_imp_iff, implies_true, forall_eq_or_imp, forall_eq]
  case whole => simpa [Plan.Spec, nth] using h
  case quad =>
    obtain ⟨ha, hb, hc⟩ := h
    exact ⟨⟨by linarith, by linarith, edgePointR_ge_neg_tol _ htol _ _ _ _ (by linarith)⟩,
      edgePointR_ge_neg_tol _ htol _ _ _ _ (by linarith), edgePointR_ge_neg_tol _ htol _ _ _ _ (by linarith), by linarith⟩
  case corner =>
    obtain ⟨ha, hb, hc⟩ := h
    exact ⟨by linarith, edgePointR_ge_neg_tol _ htol _ _ _ _ (by linarith),
      edgePointR_ge_neg_tol _ htol _ _ _ _ (by linarith)⟩

/-- a triangle that is dropped has no corner strictly above the band -/
theorem C11_rat_slice_dropped (tol : Rat) (htol : 0 ≤ tol) (n o : TV.Slice.V) (t : TV.Slice.Tri)
    (h : sliceTri tol n o t = .dropped) : ∀ x ∈ corners t, sdistR n o x ≤ tol := by
  have hg := planOf_spec tol htol n o t
  rw [sliceTri_eq_run] at h
  generalize planOf tol n o t = p at h hg
  cases p with
  | dropped => simpa [Plan.Spec, corners, nth] using hg
  | _ => cases h

/-- **the two opposite slices partition the triangle** (general position): the area vectors of the pieces
    kept for `n` and for `-n` add up to the triangle's, so the areas of the two slices add up to the area -/
theorem C11_rat_slice_partition (tol : Rat) (htol : 0 ≤ tol) (n o : TV.Slice.V) (t : TV.Slice.Tri)
    (hgen : ∀ x ∈ corners t, tol < sdistR n o x ∨ sdistR n o x < -tol) :
    TV.Slice.addV (sumV ((keptTris t (sliceTri tol n o t)).map TV.Slice.areaVecR))
         (sumV ((keptTris t (sliceTri tol (negV n) o t)).map TV.Slice.areaVecR)) = TV.Slice.areaVecR t := by
  obtain ⟨hf, hne⟩ := planOf_negV tol htol n o t hgen
  rw [sliceTri_eq_run, sliceTri_eq_run, hf, run_negV]
  generalize planOf tol n o t = p at hne
  have h0 : ∀ T : V, addV (0, 0, 0) T = T := fun T => by simp [addV]
  -- `dropped` (the opposite slice keeps the whole triangle) is closed by `h0`
  cases p <;> simp only [Plan.run, Plan.flip, keptTris, List.map, sumV, List.foldl, h0, cutPoint, nth_add_three]
  case inPlane => exact absurd rfl hne
  case whole => rw [addV_comm, h0]
  case quad =>
    rw [← areaVecR_nth t _]
    exact (cut_pieces _ _ _ _ _ _ _ rfl rfl).2.2.2
  case corner =>
    rw [addV_comm, ← areaVecR_nth t _]
    exact (cut_pieces _ _ _ _ _ _ _ rfl rfl).2.2.2

/-- every kept piece lies in the triangle's plane with the triangle's winding and no more than its area -/
theorem C11_rat_slice_oriented (tol : Rat) (htol : 0 ≤ tol) (n o : TV.Slice.V) (t : TV.Slice.Tri)
    (hgen : ∀ x ∈ corners t, tol < sdistR n o x ∨ sdistR n o x < -tol) :
    ∀ piece ∈ keptTris t (sliceTri tol n o t), ∃ k : Rat, 0 ≤ k ∧ k ≤ 1 ∧
      TV.Slice.areaVecR piece = TV.Slice.smulV k (TV.Slice.areaVecR t) := by
  have h := planOf_spec tol htol n o t
  rw [sliceTri_eq_run]
  generalize planOf tol n o t = p at h
  cases p <;>
    simp only [Plan.run, keptTris, cutPoint, nth_add_three, List.mem_cons, List.not_mem_nil, or_false, false_imp_iff,
      implies_true, forall_eq_or_imp, forall_eq]
  case whole => exact ⟨1, zero_le_one, le_refl _, by simp [smulV]⟩
  case quad k =>
    have H := cut_oriented tol htol n o (nth t k) (nth t (k + 1)) (nth t (k + 2)) (Or.inl h)
    rw [areaVecR_nth] at H
    exact ⟨H _ (by simp), H _ (by simp)⟩
  case corner k =>
    have hb := (hgen _ (nth_mem_corners t (k + 1))).resolve_left h.2.1
    have hc := (hgen _ (nth_mem_corners t (k + 2))).resolve_left h.2.2
    have H := cut_oriented tol htol n o (nth t k) (nth t (k + 1)) (nth t (k + 2)) (Or.inr ⟨h.1, hb, hc⟩)
    rw [areaVecR_nth] at H
    exact H _ (by simp)

/-! ### (G) the case table of the source -/

/-- the code of a sign triple computed with the constants recovered from the source -/
def codedGen (a b c : Int) : Int :=
  let s := sort3 a b c
  TV.Generated.C11.codeBase + s.1 * 2 ^ (TV.Generated.C11.shifts.getD 0 0) + s.2.1 * 2 ^ (TV.Generated.C11.shifts.getD 1 0)
    + s.2.2 * 2 ^ (TV.Generated.C11.shifts.getD 2 0)

/-- (G) **the case table of `triangle_cases`, regenerated from the source on every run (Generated/C11Table.lean), is the
    one the theorems are about**: for all 27 sign patterns the code is a valid index of the lookup array, and the codes
    the source switches on for `basic`, `one_vertex`, `one_edge` select exactly the patterns the model's `isBasic`,
    `isOneVertex`, `isOneEdge` select -/
theorem C11_case_table_of_source :
    allTriples.all (fun t =>
      let a := t.1; let b := t.2.1; let c := t.2.2
      decide (0 ≤ codedGen a b c) && decide (codedGen a b c < TV.Generated.C11.keyLen) &&
      (TV.Generated.C11.basicKeys.contains (codedGen a b c) == isBasic a b c) &&
      (TV.Generated.C11.oneVertexKeys.contains (codedGen a b c) == isOneVertex a b c) &&
      (TV.Generated.C11.oneEdgeKeys.contains (codedGen a b c) == isOneEdge a b c)) = true := by decide

/-! ### the whole section, on the index level: how many segment ends meet at a crossed edge -/

section loops
open TV.Topology TV.SectionLoops

/-- **the two counts from which a section of a closed surface in general position has closed loops**: give every
    vertex the sign of its side of the plane.  (1) A triangle with no vertex on the plane is crossed in none or exactly
    two of its edges: it contributes no segment or one, joining those two edges (the triangles with two are the ones
    the code's case table calls `basic`, `C11_basic_iff_two_crossed`).  (2) When every undirected edge lies in exactly
    two faces, every crossed edge is the end of exactly two segments and an uncrossed edge of none.  That is all that
    is stated.  The loop structure is its consequence and is not proved here: a graph in which every node has degree
    two is a disjoint union of cycles, so following segments from edge to edge never ends.  The proof of (1) does not
    use `f ∈ fs` -/
theorem C11_section_closed_loops (sgn : Nat → Int) (fs : List TV.Topology.Face) :
    (∀ f ∈ fs, sgn f.1 ≠ 0 → sgn f.2.1 ≠ 0 → sgn f.2.2 ≠ 0 →
        (segEdges sgn f).length = 0 ∨ (segEdges sgn f).length = 2) ∧
    ((∀ e ∈ edgesSorted fs, (edgesSorted fs).count e = 2) →
        ∀ e ∈ edgesSorted fs, (allSegEnds sgn fs).count e = if crossing sgn e then 2 else 0) := by
  refine ⟨fun f _ h1 h2 h3 => ?_, fun hc e he => ?_⟩
  · -- a product is negative when its factors have opposite signs: of three non-zero signs none or two pairs do
    rw [segEdges_length_eq]
    simp only [mul_neg_iff]
    split_ifs <;> omega
  · rw [allSegEnds_eq]
    by_cases hx : crossing sgn e = true
    · rw [List.count_filter hx, hc e he, if_pos hx]
    · rw [List.count_eq_zero_of_not_mem fun hm => hx (List.mem_filter.mp hm).2, if_neg hx]

/-- the triangles with a segment are the ones `mesh_plane`'s case table routes to its `basic` handler -/
theorem C11_basic_iff_two_crossed (sgn : Nat → Int) (f : TV.Topology.Face)
    (h1 : sgn f.1 = 1 ∨ sgn f.1 = -1) (h2 : sgn f.2.1 = 1 ∨ sgn f.2.1 = -1) (h3 : sgn f.2.2 = 1 ∨ sgn f.2.2 = -1) :
    TV.Slice.isBasic (sgn f.1) (sgn f.2.1) (sgn f.2.2) = true ↔ (segEdges sgn f).length = 2 := by
  rw [segEdges_length_eq]
  rcases h1 with a | a <;> rcases h2 with b | b <;> rcases h3 with c | c <;> rw [a, b, c] <;> decide

/-- non-vacuity: a tetrahedron cut between vertex 0 and the other three: three crossed edges, three
    segments, every crossed edge an end of two of them -/
example :
    let fs : List TV.Topology.Face := [(0, 2, 1), (0, 1, 3), (1, 2, 3), (0, 3, 2)]
    let sgn : Nat → Int := fun v => if v = 0 then 1 else -1
    (∀ e ∈ edgesSorted fs, (edgesSorted fs).count e = 2) ∧
    allSegEnds sgn fs = [(0, 2), (0, 1), (0, 1), (0, 3), (0, 3), (0, 2)] := by decide

end loops

end TV.C11
