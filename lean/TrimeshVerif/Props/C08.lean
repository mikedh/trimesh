/-
C08 — Export then load round-trips geometry in every supported format.
The theorems about the byte layouts that are trimesh's own code (lemmas in Proofs/Codec.lean), and the (G) theorems
about the layout tables read from the source (Generated/C08Tables.lean); `codeWidth`, through which those speak of
numpy type codes, is defined here.
-/
import TrimeshVerif.Proofs.Codec
import TrimeshVerif.Generated.C08Tables
namespace TV.C08
open TV.Codec

/-- a 32-bit word survives its four little-endian bytes (float32 values are bit-exact) -/
theorem C08_le32_roundtrip (n : Nat) (h : n < 4294967296) : de32 (le32 n) = n ∧ (le32 n).length = 4 ∧ isBytes (le32 n) := by
  refine ⟨de32_le32 n h, le32_length n, ?_⟩
  intro x hx
  simp [le32] at hx
  omega

/-- and four bytes survive the word -/
theorem C08_de32_roundtrip (a b c d : Nat) (ha : a < 256) (hb : b < 256) (hc : c < 256) (hd : d < 256) :
    le32 (de32 [a, b, c, d]) = [a, b, c, d] := by
  simp [de32, le32]; omega

/-- **records come back in file order**: cutting a concatenation of `n`-byte records into `n`-byte pieces
    returns exactly the records, in order (no permutation, no truncation) -/
theorem C08_chunks_flatten {α : Type} (n : Nat) (hn : 0 < n) (recs : List (List α)) (h : ∀ r ∈ recs, r.length = n) :
    chunks n recs.flatten = recs := by
  exact chunks_flatten n hn recs h

/-- one STL record (12 words + attribute) is 50 bytes and decodes to itself -/
theorem C08_stl_record (r : StlRec) (h : r.wf) : (encRec r).length = 50 ∧ decRec (encRec r) = r := by
  exact ⟨encRec_length r h.1, decRec_encRec r h⟩

/-- **binary STL is lossless**: for every 80-byte header and every list of fewer than 2^32 well-formed
    records, loading the exported bytes returns the header and the same records in the same order -/
theorem C08_stl_roundtrip (hdr : Bytes) (recs : List StlRec) (hh : hdr.length = 80)
    (hn : recs.length < 4294967296) (hw : ∀ r ∈ recs, r.wf) :
    decodeStl (encodeStl hdr recs) = .ok (hdr, recs) := by
  have hlen := encodeStl_length hdr recs hw
  have hl : (hdr ++ le32 recs.length).length = 84 := by rw [List.length_append, hh]; rfl
  -- first guard; then the three reads: the body behind 84 bytes, the header, the count word behind it
  rw [decodeStl, if_neg (by omega), hlen, encodeStl, List.drop_left' hl, List.append_assoc, List.take_left' hh,
    List.drop_left' hh, de32_le32_append _ hn]
  dsimp only
  rw [if_neg (by omega), chunks_flatMap 50 (by omega) encRec recs (fun r hr => encRec_length r (hw r hr).1),
    map_map_cancel encRec decRec recs (fun r hr => decRec_encRec r (hw r hr))]

/-- whatever the loader accepts has exactly the length its header announces (nothing is read past the
    data, nothing allocated beyond the input); `C20_stl_alloc` is the first half seen from C20 -/
theorem C08_stl_accepts_length (b hdr : Bytes) (recs : List StlRec) (h : decodeStl b = .ok (hdr, recs)) :
    b.length = 84 + 50 * recs.length ∧ hdr = b.take 80 := by
  exact decodeStl_accepts b hdr recs h

/-- the JSON chunk is padded to a 4-byte boundary (by 1..4 spaces, as the exporter does) -/
theorem C08_padJson (j : Bytes) : ((padJson j).length + 20) % 4 = 0 ∧ ∃ k, 1 ≤ k ∧ k ≤ 4 ∧ padJson j = j ++ List.replicate k 32 := by
  refine ⟨by rw [padJson_length]; omega, 4 - (j.length + 20) % 4, by omega, by omega, rfl⟩

/-- **GLB framing is lossless**: the loader recovers the (padded) JSON chunk and the binary chunk exactly -/
theorem C08_glb_roundtrip (json bin : Bytes) (hj : json.length + 4 < 4294967296) (hb : bin.length < 4294967296)
    (ht : (padJson json).length + bin.length + 28 < 4294967296) :
    decodeGlb (encodeGlb json bin) = .ok (padJson json, [bin]) := by
  unfold encodeGlb
  simp only [List.append_assoc]
  exact decodeGlb_frame _ _ _ _ (by rw [padJson_length]; omega) ht (binChunks_single bin hb (bin.length + 7) _ (by omega))

/-- **bufferViews tile the binary chunk**: view `i` of the concatenated items reads back exactly item `i` -/
theorem C08_views (items : List Bytes) (i : Nat) (hi : i < items.length) :
    ∃ v, (views items)[i]? = some v ∧ slice items.flatten v = items[i] := by
  refine ⟨_, by rw [views, viewsAux_getElem?, List.getElem?_eq_getElem hi]; rfl, ?_⟩
  have : items.flatten = (items.take i).flatten ++ (items[i] ++ (items.drop (i + 1)).flatten) := by
    rw [← List.flatten_cons, ← List.drop_eq_getElem_cons hi, ← List.flatten_append, List.take_append_drop]
  rw [slice, this, List.drop_left' (Nat.zero_add _).symm, List.take_left' rfl]

/-- and consecutive views are adjacent (no overlap, no gap) -/
theorem C08_views_adjacent (items : List Bytes) (i : Nat) (v w : Nat × Nat)
    (hv : (views items)[i]? = some v) (hw : (views items)[i + 1]? = some w) : w.1 = v.1 + v.2 := by
  rw [views, viewsAux_getElem?, Option.map_eq_some_iff] at hv hw
  obtain ⟨a, ha, rfl⟩ := hv
  obtain ⟨b, -, rfl⟩ := hw
  simp [List.take_add_one, ha]

/-- padded items keep every view offset 4-byte aligned (`assert (current_pos % 4) == 0`) -/
theorem C08_views_aligned (items : List Bytes) (h : ∀ it ∈ items, it.length % 4 = 0) :
    ∀ v ∈ views items, v.1 % 4 = 0 := by
  exact viewsAux_aligned items h 0 rfl

/-- `_byte_pad` only appends, to the next multiple of four -/
theorem C08_pad4 (fill : Nat) (b : Bytes) : (pad4 fill b).length % 4 = 0 ∧ (pad4 fill b).take b.length = b ∧
    (pad4 fill b).length < b.length + 4 := by
  unfold pad4
  split
  · rename_i h; exact ⟨h, by simp, by omega⟩
  · refine ⟨by simp; omega, by simp, by simp; omega⟩

/-- **packed PLY body**: a vertex block followed by a face block is split back into the same records -/
theorem C08_ply_body (vs fs : Nat) (hvs : 0 < vs) (hfs : 0 < fs) (vrecs frecs : List Bytes)
    (hv : ∀ r ∈ vrecs, r.length = vs) (hf : ∀ r ∈ frecs, r.length = fs) (tail : Bytes) :
    splitBody vrecs.length vs frecs.length fs (vrecs.flatten ++ frecs.flatten ++ tail) = (vrecs, frecs) := by
  have hlv := flatten_length_const vs vrecs hv
  have hlf := flatten_length_const fs frecs hf
  unfold splitBody
  rw [List.append_assoc, List.take_left' hlv, List.drop_left' hlv, List.take_left' hlf,
    chunks_flatten vs hvs vrecs hv, chunks_flatten fs hfs frecs hf]

/-- **text formats**: rows of delimiter-free tokens written with a column and a row delimiter parse back
    to the same rows in the same order (every row non-empty, at least one row) -/
theorem C08_text_rows (col row : Char) (hcr : col ≠ row) (rows : List (List Tok)) (hne : rows ≠ [])
    (hrow : ∀ r ∈ rows, r ≠ []) (htok : ∀ r ∈ rows, ∀ t ∈ r, col ∉ t ∧ row ∉ t) :
    parseRows col row (formatRows col row rows) = rows := by
  unfold parseRows formatRows
  rw [splitAt_joinWith row _ (mt List.map_eq_nil_iff.1 hne)
    (List.forall_mem_map.2 fun r hr => notMem_joinWith col row hcr r fun t ht => (htok r hr t ht).2)]
  exact map_map_cancel _ _ rows (fun r hr => splitAt_joinWith col r (hrow r hr) (fun t ht => (htok r hr t ht).1))

/-- **base64 is lossless** (the dict64 / base64 array encodings) -/
theorem C08_base64 (b : Bytes) (h : isBytes b) : b64dec (b64enc b) = b := by
  fun_induction b64enc b with
  | case1 a b c rest ih =>
    obtain ⟨e1, e2, e3⟩ := b64_group a b c (h b (by simp)) (h c (by simp))
    rw [b64dec_quad _ _ _ _ _ (Nat.ne_of_lt (Nat.mod_lt c (by decide))), ih (fun x hx => h x (by simp [hx])), e1, e2, e3]
  | case2 a b =>
    obtain ⟨e1, e2, -⟩ := b64_group a b 0 (h b (by simp)) (by decide)
    rw [b64dec_pad1 _ _ _ (by omega), e1]
    exact congrArg (fun y => [a, y]) e2
  | case3 a =>
    obtain ⟨e1, -, -⟩ := b64_group a 0 0 (by decide) (by decide)
    exact congrArg (· :: []) e1
  | case4 => rfl


/-! ### (G) layout tables regenerated from the source on every run (Generated/C08Tables.lean) -/

section tables
open TV.Generated.C08

/-- width in bytes of a numpy type code such as `i4`, `<f4`, `u2`, `V` (one byte per element) -/
def codeWidth (c : String) : Nat :=
  match c.toList.reverse with
  | '1' :: _ => 1 | '2' :: _ => 2 | '4' :: _ => 4 | '8' :: _ => 8 | _ => 1

/-- (G) **PLY type names survive export and reload**: the name the exporter writes for a numpy type
    (`_inverse_dtypes`) is read back by the loader (`_dtypes`) as the same numpy type, for every entry -/
theorem C08_ply_type_names_roundtrip :
    plyInverse.all (fun kv => plyDtypes.lookup kv.2 == some kv.1) = true := by decide

/-- (G) **the binary STL record of the source is the record of the model**: normals (3 x float32), vertices
    (9 x float32), attribute (uint16), in that order - twelve 32-bit words and one 16-bit word, 50 bytes
    (`C08_stl_record`); the header is 80 bytes and a little-endian uint32 count, 84 bytes -/
theorem C08_stl_layout :
    stlRecord = [("normals", "<f4", 3), ("vertices", "<f4", 9), ("attributes", "<u2", 1)] ∧
    (stlRecord.map (fun f => codeWidth f.2.1 * f.2.2)).sum = 50 ∧
    stlHeader = [("header", "V", 80), ("face_count", "<u4", 1)] ∧
    (stlHeader.map (fun f => codeWidth f.2.1 * f.2.2)).sum = 84 := by decide

/-- (G) **GLB magic numbers**: the words of the source are the ones the framing model writes and tests, and
    they spell `glTF`, `JSON`, `BIN\0` in little-endian bytes -/
theorem C08_gltf_magic :
    gltfMagic = [("gltf", magicGltf), ("json", magicJson), ("bin", magicBin)] ∧
    le32 magicGltf = [0x67, 0x6C, 0x54, 0x46] ∧ le32 magicJson = [0x4A, 0x53, 0x4F, 0x4E] ∧
    le32 magicBin = [0x42, 0x49, 0x4E, 0x00] := by decide

/-- (G) glTF component types are little-endian codes of distinct numbers, and accessor shapes have the
    component counts of the specification -/
theorem C08_gltf_types :
    gltfDtypes.all (fun kv => kv.2.toList.head? == some '<') = true ∧
    (gltfDtypes.map (·.1)).Nodup ∧ (gltfDtypes.map (·.2)).Nodup ∧
    gltfShapes = [("SCALAR", 1), ("VEC2", 2), ("VEC3", 3), ("VEC4", 4), ("MAT2", 4), ("MAT3", 9), ("MAT4", 16)] := by
  decide

/-- (G) the loader's PLY table maps every name to a code whose width is the digit it ends with, and the
    exporter never writes a name the loader does not know -/
theorem C08_ply_tables_total :
    plyInverse.all (fun kv => (plyDtypes.lookup kv.2).isSome) = true ∧
    plyDtypes.all (fun kv => codeWidth kv.2 == 1 || codeWidth kv.2 == 2 || codeWidth kv.2 == 4 || codeWidth kv.2 == 8) = true := by
  decide

end tables

end TV.C08
