/-
C01 — Derived mesh values never go stale (the cache is history independent).
Property theorems only; helper lemmas live in Proofs/Cache.lean.
`f k d` (the value of cached property `k` on data `d`) is a parameter, so the theorems hold for every cached
function and every data type.  `C01_read_fresh` holds for every history of reads, edits and cache-keeping mutators
whose mutators are sound (`OpsSound`: each verifies the cache before keeping anything and transports what it keeps);
for arbitrary mutators it is false (`C01_full_is_false`).
-/
import TrimeshVerif.Proofs.Cache
import TrimeshVerif.Generated.C01Table
namespace TV.C01
open TV.Cache

variable {D V : Type} [DecidableEq D]

/-- the unrestricted statement (any mutators): FALSE, refuted by `C01_full_is_false` -/
def C01_full (D V : Type) [DecidableEq D] : Prop :=
  ∀ (f : String → D → V) (d : D) (ops : List (Op D V)) (k : String),
    (read f (run f (St.init d) ops) k).1 = f k (run f (St.init d) ops).data

/-- coherence is an invariant of every operation whose mutators are sound -/
theorem C01_step_coherent (f : String → D → V) (s : St D V) (op : Op D V) (h : Coherent f s)
    (hs : match op with
      | .mutate m => MutSound f m
      | _ => True) : Coherent f (step f s op).2 := by
  cases op with
  | read k => exact coherent_read h k
  | edit g => exact coherent_edit h g
  | mutate m => exact coherent_mutate h hs

/-- **every read is fresh**: after *any* history of reads, in-place or reassignment edits and sound
    cache-keeping mutators, reading any key returns the value a freshly built mesh with the same data
    reports — whatever was read before, in whatever order -/
theorem C01_read_fresh (f : String → D → V) (d : D) (ops : List (Op D V)) (hs : OpsSound f ops) (k : String) :
    (read f (run f (St.init d) ops) k).1 = f k (run f (St.init d) ops).data :=
  read_fst_of_coherent (coherent_run ops _ (coherent_init f d) hs) k

/-- history independence: two histories that end with the same data answer every read identically -/
theorem C01_history_independent (f : String → D → V) (d d' : D) (ops ops' : List (Op D V))
    (hs : OpsSound f ops) (hs' : OpsSound f ops')
    (he : (run f (St.init d) ops).data = (run f (St.init d') ops').data) (k : String) :
    (read f (run f (St.init d) ops) k).1 = (read f (run f (St.init d') ops') k).1 := by
  rw [C01_read_fresh f d ops hs k, C01_read_fresh f d' ops' hs' k, he]

/-- (G) the cache-keeping mutators of the current source meet their syntactic obligations: they verify
    the cache before keeping anything, do not keep topology across a winding flip, and every key they keep
    is independent of what they modify (by the read sets extracted from the source) or has a registered
    transport lemma -/
theorem C01_table_sound : TV.Generated.C01.mutators.all (rowOk TV.Generated.C01.deps) = true := by decide

/-- (G) every mutator that keeps cache entries in the source of this run is one of the four that `modifies` has a
    case for -/
theorem C01_table_mutators :
    (TV.Generated.C01.mutators.map (·.1)).all
      (fun n => ["apply_transform", "invert", "process", "unmerge_vertices"].contains n) = true := by decide

/-! ### witnesses: what goes wrong without the obligations

Each mirrors a defect that /repo had: mutators that kept entries without verifying first (repaired by 1813b39),
`apply_transform` keeping edge data across a winding flip and wrongly transported normals (3029684, 39327ca). -/

/-- a mutator that keeps a value without verifying first: edit, keep, read → stale -/
theorem C01_stale_without_verify :
    let f : String → Nat → Nat := fun _ d => d
    let m : Mutator Nat Nat := ⟨false, fun d => d, ["k"], fun _ _ v => v, true⟩
    let ops : List (Op Nat Nat) := [.read "k", .edit (fun _ => 7), .mutate m]
    (read f (run f (St.init 1) ops) "k").1 = 1 ∧ (run f (St.init 1) ops).data = 7 := by
  decide

/-- a mutator that keeps a key depending on what it modifies, with no transport: stale -/
theorem C01_stale_dependent_key :
    let f : String → Nat → Nat := fun _ d => d
    let m : Mutator Nat Nat := ⟨true, fun d => d + 1, ["k"], fun _ _ v => v, true⟩
    let ops : List (Op Nat Nat) := [.read "k", .mutate m]
    (read f (run f (St.init 1) ops) "k").1 = 1 ∧ (run f (St.init 1) ops).data = 2 := by
  decide

/-- hence the unrestricted statement is false -/
theorem C01_full_is_false : ¬ C01_full Nat Nat := fun h =>
  have h2 := C01_stale_dependent_key
  absurd (h2.1.symm.trans ((h _ _ _ _).trans h2.2)) (by decide)

/-! ### what was read before never changes the data a mutator leaves behind -/

/-- **reads never change the data**: for mutators whose change is a function of the data (the model of every library
    mutator but the one below), the vertices and faces after any history are those of the same history with every
    read removed - whichever values were read, in whatever order, in between -/
theorem C01_reads_never_change_data (f : String → D → V) (d : D) (ops : List (Op D V)) :
    (run f (St.init d) ops).data
      = (run f (St.init d) (ops.filter (fun o => match o with | .read _ => false | _ => true))).data :=
  run_data_congr f ops _ _ rfl

/-- **a mutator that consults the cache is outside that model** (the recorded finding: `merge_vertices` keeps vertices
    with different cached vertex normals apart): if the change depends on whether a key is stored, the same history
    with and without an earlier read ends with different data -/
theorem C01_cache_consulting_mutator_witness :
    let f : String → Nat → Nat := fun _ d => d
    let merge : St Nat Nat → St Nat Nat := fun s =>
      let s := verify s
      -- "merge": 36 soup vertices go to 8, or to 24 when vertex normals are in the cache
      { s with data := if (s.cache.lookup "vertex_normals").isSome then 24 else 8 }
    (merge (read f (St.init 36) "vertex_normals").2).data = 24 ∧ (merge (St.init 36)).data = 8 := by
  decide

/-! non-vacuity: a sound mutator with a genuine transport (value doubles when data doubles) -/
example : let f : String → Nat → Nat := fun _ d => 3 * d
    let m : Mutator Nat Nat := ⟨true, fun d => 2 * d, ["k"], fun _ _ v => 2 * v, true⟩
    MutSound f m := by
  refine Or.inr ⟨rfl, ?_⟩
  intro d k _
  show 2 * (3 * d) = 3 * (2 * d)
  omega

end TV.C01
