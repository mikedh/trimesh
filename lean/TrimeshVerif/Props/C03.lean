/-
C03 — Mass properties equal the exact integrals over the enclosed solid.
The property theorems, with the definitions their statements need: the ten face sums of the code and of the exact
moments (`codeSum0 … 9`, `exactSum0 … 9`), a translated surface (`shift`, `shiftTri`) and two entries of the inertia
tensor as the code forms them and as they should be (`codeI00`, `codeI01`, `exactI00`, `exactI01`).
`F0 … F9` are the per-face polynomials traced from the real `triangles.mass_properties` on every run
(Generated/C03Trace.lean); `T0 … T9` are the exact moments of the signed tetrahedron spanned by the origin and the
face (Proofs/Moments.lean).  All theorems hold over any field of characteristic zero, in particular for all real
coordinates.
-/
import TrimeshVerif.Proofs.Moments
import TrimeshVerif.Proofs.Affine
import TrimeshVerif.Generated.C03Trace
import TrimeshVerif.Generated.C03TraceRat
import TrimeshVerif.Proofs.FrameLaw
import TrimeshVerif.Generated.C03FrameRat
import Mathlib.Algebra.Order.Field.Rat
namespace TV.C03
open TV.Moments TV.Generated.C03

variable {K : Type} [Field K] [CharZero K]

/-! ### (G) per-face decomposition: traced integrand = exact tetrahedron moment + cancelling edge terms -/

theorem C03_face_decomp_0 (a1 a2 a3 b1 b2 b3 c1 c2 c3 : K) :
    F0 a1 a2 a3 b1 b2 b3 c1 c2 c3 = T0 a1 a2 a3 b1 b2 b3 c1 c2 c3
      + (g0 a1 a2 a3 b1 b2 b3 + g0 b1 b2 b3 c1 c2 c3 + g0 c1 c2 c3 a1 a2 a3) := by
  unfold F0 T0 g0 det3; ring

theorem C03_face_decomp_1 (a1 a2 a3 b1 b2 b3 c1 c2 c3 : K) :
    F1 a1 a2 a3 b1 b2 b3 c1 c2 c3 = T1 a1 a2 a3 b1 b2 b3 c1 c2 c3
      + (g1 a1 a2 a3 b1 b2 b3 + g1 b1 b2 b3 c1 c2 c3 + g1 c1 c2 c3 a1 a2 a3) := by
  unfold F1 T1 g1 det3; ring

theorem C03_face_decomp_2 (a1 a2 a3 b1 b2 b3 c1 c2 c3 : K) :
    F2 a1 a2 a3 b1 b2 b3 c1 c2 c3 = T2 a1 a2 a3 b1 b2 b3 c1 c2 c3
      + (g2 a1 a2 a3 b1 b2 b3 + g2 b1 b2 b3 c1 c2 c3 + g2 c1 c2 c3 a1 a2 a3) := by
  unfold F2 T2 g2 det3; ring

theorem C03_face_decomp_3 (a1 a2 a3 b1 b2 b3 c1 c2 c3 : K) :
    F3 a1 a2 a3 b1 b2 b3 c1 c2 c3 = T3 a1 a2 a3 b1 b2 b3 c1 c2 c3
      + (g3 a1 a2 a3 b1 b2 b3 + g3 b1 b2 b3 c1 c2 c3 + g3 c1 c2 c3 a1 a2 a3) := by
  unfold F3 T3 g3 det3; ring

theorem C03_face_decomp_4 (a1 a2 a3 b1 b2 b3 c1 c2 c3 : K) :
    F4 a1 a2 a3 b1 b2 b3 c1 c2 c3 = T4 a1 a2 a3 b1 b2 b3 c1 c2 c3
      + (g4 a1 a2 a3 b1 b2 b3 + g4 b1 b2 b3 c1 c2 c3 + g4 c1 c2 c3 a1 a2 a3) := by
  unfold F4 T4 g4 det3 q2; ring

theorem C03_face_decomp_5 (a1 a2 a3 b1 b2 b3 c1 c2 c3 : K) :
    F5 a1 a2 a3 b1 b2 b3 c1 c2 c3 = T5 a1 a2 a3 b1 b2 b3 c1 c2 c3
      + (g5 a1 a2 a3 b1 b2 b3 + g5 b1 b2 b3 c1 c2 c3 + g5 c1 c2 c3 a1 a2 a3) := by
  unfold F5 T5 g5 det3 q2; ring

theorem C03_face_decomp_6 (a1 a2 a3 b1 b2 b3 c1 c2 c3 : K) :
    F6 a1 a2 a3 b1 b2 b3 c1 c2 c3 = T6 a1 a2 a3 b1 b2 b3 c1 c2 c3
      + (g6 a1 a2 a3 b1 b2 b3 + g6 b1 b2 b3 c1 c2 c3 + g6 c1 c2 c3 a1 a2 a3) := by
  unfold F6 T6 g6 det3 q2; ring

theorem C03_face_decomp_7 (a1 a2 a3 b1 b2 b3 c1 c2 c3 : K) :
    F7 a1 a2 a3 b1 b2 b3 c1 c2 c3 = T7 a1 a2 a3 b1 b2 b3 c1 c2 c3
      + (g7 a1 a2 a3 b1 b2 b3 + g7 b1 b2 b3 c1 c2 c3 + g7 c1 c2 c3 a1 a2 a3) := by
  unfold F7 T7 g7 det3 q2; ring

theorem C03_face_decomp_8 (a1 a2 a3 b1 b2 b3 c1 c2 c3 : K) :
    F8 a1 a2 a3 b1 b2 b3 c1 c2 c3 = T8 a1 a2 a3 b1 b2 b3 c1 c2 c3
      + (g8 a1 a2 a3 b1 b2 b3 + g8 b1 b2 b3 c1 c2 c3 + g8 c1 c2 c3 a1 a2 a3) := by
  unfold F8 T8 g8 det3 q2; ring

theorem C03_face_decomp_9 (a1 a2 a3 b1 b2 b3 c1 c2 c3 : K) :
    F9 a1 a2 a3 b1 b2 b3 c1 c2 c3 = T9 a1 a2 a3 b1 b2 b3 c1 c2 c3
      + (g9 a1 a2 a3 b1 b2 b3 + g9 b1 b2 b3 c1 c2 c3 + g9 c1 c2 c3 a1 a2 a3) := by
  unfold F9 T9 g9 det3 q2; ring

/-! ### the edge terms are antisymmetric -/

theorem C03_edge_antisymm_0 (u1 u2 u3 v1 v2 v3 : K) :
    g0 u1 u2 u3 v1 v2 v3 + g0 v1 v2 v3 u1 u2 u3 = 0 := by
  unfold g0; ring

theorem C03_edge_antisymm_1 (u1 u2 u3 v1 v2 v3 : K) :
    g1 u1 u2 u3 v1 v2 v3 + g1 v1 v2 v3 u1 u2 u3 = 0 := by
  unfold g1; ring

theorem C03_edge_antisymm_2 (u1 u2 u3 v1 v2 v3 : K) :
    g2 u1 u2 u3 v1 v2 v3 + g2 v1 v2 v3 u1 u2 u3 = 0 := by
  unfold g2; ring

theorem C03_edge_antisymm_3 (u1 u2 u3 v1 v2 v3 : K) :
    g3 u1 u2 u3 v1 v2 v3 + g3 v1 v2 v3 u1 u2 u3 = 0 := by
  unfold g3; ring

theorem C03_edge_antisymm_4 (u1 u2 u3 v1 v2 v3 : K) :
    g4 u1 u2 u3 v1 v2 v3 + g4 v1 v2 v3 u1 u2 u3 = 0 := by
  unfold g4; ring

theorem C03_edge_antisymm_5 (u1 u2 u3 v1 v2 v3 : K) :
    g5 u1 u2 u3 v1 v2 v3 + g5 v1 v2 v3 u1 u2 u3 = 0 := by
  unfold g5; ring

theorem C03_edge_antisymm_6 (u1 u2 u3 v1 v2 v3 : K) :
    g6 u1 u2 u3 v1 v2 v3 + g6 v1 v2 v3 u1 u2 u3 = 0 := by
  unfold g6; ring

theorem C03_edge_antisymm_7 (u1 u2 u3 v1 v2 v3 : K) :
    g7 u1 u2 u3 v1 v2 v3 + g7 v1 v2 v3 u1 u2 u3 = 0 := by
  unfold g7; ring

theorem C03_edge_antisymm_8 (u1 u2 u3 v1 v2 v3 : K) :
    g8 u1 u2 u3 v1 v2 v3 + g8 v1 v2 v3 u1 u2 u3 = 0 := by
  unfold g8; ring

theorem C03_edge_antisymm_9 (u1 u2 u3 v1 v2 v3 : K) :
    g9 u1 u2 u3 v1 v2 v3 + g9 v1 v2 v3 u1 u2 u3 = 0 := by
  unfold g9; ring

/-! ### closed surfaces: the sums computed by the code are the exact integrals -/

/-- the ten face sums the code forms (`integrated`) and the ten exact moments of the solid -/
def codeSum0 (fs : List (Tri K)) : K := (fs.map (fun f => F0 f.1.1 f.1.2.1 f.1.2.2 f.2.1.1 f.2.1.2.1 f.2.1.2.2 f.2.2.1 f.2.2.2.1 f.2.2.2.2)).sum
def exactSum0 (fs : List (Tri K)) : K := (fs.map (fun f => T0 f.1.1 f.1.2.1 f.1.2.2 f.2.1.1 f.2.1.2.1 f.2.1.2.2 f.2.2.1 f.2.2.2.1 f.2.2.2.2)).sum
def codeSum1 (fs : List (Tri K)) : K := (fs.map (fun f => F1 f.1.1 f.1.2.1 f.1.2.2 f.2.1.1 f.2.1.2.1 f.2.1.2.2 f.2.2.1 f.2.2.2.1 f.2.2.2.2)).sum
def exactSum1 (fs : List (Tri K)) : K := (fs.map (fun f => T1 f.1.1 f.1.2.1 f.1.2.2 f.2.1.1 f.2.1.2.1 f.2.1.2.2 f.2.2.1 f.2.2.2.1 f.2.2.2.2)).sum
def codeSum2 (fs : List (Tri K)) : K := (fs.map (fun f => F2 f.1.1 f.1.2.1 f.1.2.2 f.2.1.1 f.2.1.2.1 f.2.1.2.2 f.2.2.1 f.2.2.2.1 f.2.2.2.2)).sum
def exactSum2 (fs : List (Tri K)) : K := (fs.map (fun f => T2 f.1.1 f.1.2.1 f.1.2.2 f.2.1.1 f.2.1.2.1 f.2.1.2.2 f.2.2.1 f.2.2.2.1 f.2.2.2.2)).sum
def codeSum3 (fs : List (Tri K)) : K := (fs.map (fun f => F3 f.1.1 f.1.2.1 f.1.2.2 f.2.1.1 f.2.1.2.1 f.2.1.2.2 f.2.2.1 f.2.2.2.1 f.2.2.2.2)).sum
def exactSum3 (fs : List (Tri K)) : K := (fs.map (fun f => T3 f.1.1 f.1.2.1 f.1.2.2 f.2.1.1 f.2.1.2.1 f.2.1.2.2 f.2.2.1 f.2.2.2.1 f.2.2.2.2)).sum
def codeSum4 (fs : List (Tri K)) : K := (fs.map (fun f => F4 f.1.1 f.1.2.1 f.1.2.2 f.2.1.1 f.2.1.2.1 f.2.1.2.2 f.2.2.1 f.2.2.2.1 f.2.2.2.2)).sum
def exactSum4 (fs : List (Tri K)) : K := (fs.map (fun f => T4 f.1.1 f.1.2.1 f.1.2.2 f.2.1.1 f.2.1.2.1 f.2.1.2.2 f.2.2.1 f.2.2.2.1 f.2.2.2.2)).sum
def codeSum5 (fs : List (Tri K)) : K := (fs.map (fun f => F5 f.1.1 f.1.2.1 f.1.2.2 f.2.1.1 f.2.1.2.1 f.2.1.2.2 f.2.2.1 f.2.2.2.1 f.2.2.2.2)).sum
def exactSum5 (fs : List (Tri K)) : K := (fs.map (fun f => T5 f.1.1 f.1.2.1 f.1.2.2 f.2.1.1 f.2.1.2.1 f.2.1.2.2 f.2.2.1 f.2.2.2.1 f.2.2.2.2)).sum
def codeSum6 (fs : List (Tri K)) : K := (fs.map (fun f => F6 f.1.1 f.1.2.1 f.1.2.2 f.2.1.1 f.2.1.2.1 f.2.1.2.2 f.2.2.1 f.2.2.2.1 f.2.2.2.2)).sum
def exactSum6 (fs : List (Tri K)) : K := (fs.map (fun f => T6 f.1.1 f.1.2.1 f.1.2.2 f.2.1.1 f.2.1.2.1 f.2.1.2.2 f.2.2.1 f.2.2.2.1 f.2.2.2.2)).sum
def codeSum7 (fs : List (Tri K)) : K := (fs.map (fun f => F7 f.1.1 f.1.2.1 f.1.2.2 f.2.1.1 f.2.1.2.1 f.2.1.2.2 f.2.2.1 f.2.2.2.1 f.2.2.2.2)).sum
def exactSum7 (fs : List (Tri K)) : K := (fs.map (fun f => T7 f.1.1 f.1.2.1 f.1.2.2 f.2.1.1 f.2.1.2.1 f.2.1.2.2 f.2.2.1 f.2.2.2.1 f.2.2.2.2)).sum
def codeSum8 (fs : List (Tri K)) : K := (fs.map (fun f => F8 f.1.1 f.1.2.1 f.1.2.2 f.2.1.1 f.2.1.2.1 f.2.1.2.2 f.2.2.1 f.2.2.2.1 f.2.2.2.2)).sum
def exactSum8 (fs : List (Tri K)) : K := (fs.map (fun f => T8 f.1.1 f.1.2.1 f.1.2.2 f.2.1.1 f.2.1.2.1 f.2.1.2.2 f.2.2.1 f.2.2.2.1 f.2.2.2.2)).sum
def codeSum9 (fs : List (Tri K)) : K := (fs.map (fun f => F9 f.1.1 f.1.2.1 f.1.2.2 f.2.1.1 f.2.1.2.1 f.2.1.2.2 f.2.2.1 f.2.2.2.1 f.2.2.2.2)).sum
def exactSum9 (fs : List (Tri K)) : K := (fs.map (fun f => T9 f.1.1 f.1.2.1 f.1.2.2 f.2.1.1 f.2.1.2.1 f.2.1.2.2 f.2.2.1 f.2.2.2.1 f.2.2.2.2)).sum

theorem C03_closed_sum_0 (fs : List (Tri K)) (h : Closed fs) : codeSum0 fs = exactSum0 fs :=
  face_sum_eq_coords F0 T0 g0 C03_edge_antisymm_0 C03_face_decomp_0 fs h

theorem C03_closed_sum_1 (fs : List (Tri K)) (h : Closed fs) : codeSum1 fs = exactSum1 fs :=
  face_sum_eq_coords F1 T1 g1 C03_edge_antisymm_1 C03_face_decomp_1 fs h

theorem C03_closed_sum_2 (fs : List (Tri K)) (h : Closed fs) : codeSum2 fs = exactSum2 fs :=
  face_sum_eq_coords F2 T2 g2 C03_edge_antisymm_2 C03_face_decomp_2 fs h

theorem C03_closed_sum_3 (fs : List (Tri K)) (h : Closed fs) : codeSum3 fs = exactSum3 fs :=
  face_sum_eq_coords F3 T3 g3 C03_edge_antisymm_3 C03_face_decomp_3 fs h

theorem C03_closed_sum_4 (fs : List (Tri K)) (h : Closed fs) : codeSum4 fs = exactSum4 fs :=
  face_sum_eq_coords F4 T4 g4 C03_edge_antisymm_4 C03_face_decomp_4 fs h

theorem C03_closed_sum_5 (fs : List (Tri K)) (h : Closed fs) : codeSum5 fs = exactSum5 fs :=
  face_sum_eq_coords F5 T5 g5 C03_edge_antisymm_5 C03_face_decomp_5 fs h

theorem C03_closed_sum_6 (fs : List (Tri K)) (h : Closed fs) : codeSum6 fs = exactSum6 fs :=
  face_sum_eq_coords F6 T6 g6 C03_edge_antisymm_6 C03_face_decomp_6 fs h

theorem C03_closed_sum_7 (fs : List (Tri K)) (h : Closed fs) : codeSum7 fs = exactSum7 fs :=
  face_sum_eq_coords F7 T7 g7 C03_edge_antisymm_7 C03_face_decomp_7 fs h

theorem C03_closed_sum_8 (fs : List (Tri K)) (h : Closed fs) : codeSum8 fs = exactSum8 fs :=
  face_sum_eq_coords F8 T8 g8 C03_edge_antisymm_8 C03_face_decomp_8 fs h

theorem C03_closed_sum_9 (fs : List (Tri K)) (h : Closed fs) : codeSum9 fs = exactSum9 fs :=
  face_sum_eq_coords F9 T9 g9 C03_edge_antisymm_9 C03_face_decomp_9 fs h

/-- **closed-surface theorem**: for every closed, consistently wound triangle list — any genus, several
    bodies, nested or overlapping shells, any number of faces — each of the ten sums computed by
    `mass_properties` equals the exact integral of 1, x, y, z, x², y², z², xy, yz, zx over the enclosed
    solid (cone decomposition from the origin) -/
theorem C03_closed_sum (fs : List (Tri K)) (h : Closed fs) :
    codeSum0 fs = exactSum0 fs ∧ codeSum1 fs = exactSum1 fs ∧ codeSum2 fs = exactSum2 fs ∧
    codeSum3 fs = exactSum3 fs ∧ codeSum4 fs = exactSum4 fs ∧ codeSum5 fs = exactSum5 fs ∧
    codeSum6 fs = exactSum6 fs ∧ codeSum7 fs = exactSum7 fs ∧ codeSum8 fs = exactSum8 fs ∧
    codeSum9 fs = exactSum9 fs :=
  ⟨C03_closed_sum_0 fs h, C03_closed_sum_1 fs h, C03_closed_sum_2 fs h, C03_closed_sum_3 fs h,
   C03_closed_sum_4 fs h, C03_closed_sum_5 fs h, C03_closed_sum_6 fs h, C03_closed_sum_7 fs h,
   C03_closed_sum_8 fs h, C03_closed_sum_9 fs h⟩

/-! ### the enclosed solid is well defined: the volume does not depend on the apex of the cones -/

def shift (t : Pt K) (p : Pt K) : Pt K := (p.1 + t.1, p.2.1 + t.2.1, p.2.2 + t.2.2)
def shiftTri (t : Pt K) (f : Tri K) : Tri K := (shift t f.1, shift t f.2.1, shift t f.2.2)

/-- `shift` is the translation of Proofs/Affine.lean with the arguments in the other order -/
theorem shift_eq_add (t p : Pt K) : shift t p = TV.Affine.add p t := rfl

/-- translating a closed surface (equivalently: moving the apex of the cones) leaves the exact volume
    unchanged, so "the enclosed volume" does not depend on where the origin is -/
theorem C03_apex_free_volume (t : Pt K) (fs : List (Tri K)) (h : Closed fs) :
    exactSum0 (fs.map (shiftTri t)) = exactSum0 fs := by
  unfold exactSum0
  rw [List.map_map]
  simp only [Function.comp_def, shiftTri, shift_eq_add]
  -- the summand `T0 a.1 a.2.1 a.2.2 b.1 … c.2.2` is `Affine.vol a b c` unfolded
  exact face_sum_eq (fun a b c => TV.Affine.vol (TV.Affine.add a t) (TV.Affine.add b t) (TV.Affine.add c t))
    TV.Affine.vol (TV.Affine.vol t) (TV.Affine.vol_antisymm t) (TV.Affine.vol_add t) fs h

/-! ### post-processing

That the traced outputs of `mass_properties` have the shape of `codeI00`, `codeI01` (entry `(r, c)` of the tensor is
`ρ (second moment − V k k)` in the ten sums, mass is `ρ V`, an overridden centre of mass is returned unchanged) is
checked as exact polynomial identities by harness/props/C03.py when it writes Generated/C03Trace.lean, not by Lean. -/

/-- the code's inertia entries from the ten sums `S`, density `rho` and the point `k` it subtracts -/
def codeI00 (S : Fin 10 → K) (rho k2 k3 : K) : K := rho * (S 5 + S 6 - S 0 * (k2 * k2 + k3 * k3))
def codeI01 (S : Fin 10 → K) (rho k1 k2 : K) : K := -(rho * (S 7 - S 0 * k1 * k2))
/-- entries `(0, 0)` and `(0, 1)` of the exact inertia tensor about the point `k`: `ρ (yy + zz)` and `−ρ xy` of the
    second moments about `k`, which are those about the origin shifted (`∫ (y − k₂)² = S 5 − 2 k₂ S 2 + S 0 k₂²`, …) -/
def exactI00 (S : Fin 10 → K) (rho k2 k3 : K) : K :=
  rho * ((S 5 - 2 * k2 * S 2 + S 0 * k2 * k2) + (S 6 - 2 * k3 * S 3 + S 0 * k3 * k3))
def exactI01 (S : Fin 10 → K) (rho k1 k2 : K) : K :=
  -(rho * (S 7 - k1 * S 2 - k2 * S 1 + S 0 * k1 * k2))

/-- **inertia at the centre of mass**: when `k` is the centroid `(S1, S2, S3) / S0` the code's
    `second moment − V·k·k` is exactly the inertia about `k` (parallel-axis theorem), for every density -/
theorem C03_inertia_at_com (S : Fin 10 → K) (rho : K) (hV : S 0 ≠ 0) :
    codeI00 S rho (S 2 / S 0) (S 3 / S 0) = exactI00 S rho (S 2 / S 0) (S 3 / S 0) ∧
    codeI01 S rho (S 1 / S 0) (S 2 / S 0) = exactI01 S rho (S 1 / S 0) (S 2 / S 0) := by
  unfold codeI00 exactI00 codeI01 exactI01
  constructor <;> field_simp <;> ring

/-- density scales the inertia entries linearly (the mass `ρ V` is not among the definitions here; see the note on
    post-processing above) -/
theorem C03_density_linear (S : Fin 10 → K) (rho c k1 k2 k3 : K) :
    codeI00 S (c * rho) k2 k3 = c * codeI00 S rho k2 k3 ∧
    codeI01 S (c * rho) k1 k2 = c * codeI01 S rho k1 k2 := by
  unfold codeI00 codeI01; constructor <;> ring

/-- with an overridden centre of mass `k` that is not the centroid, the code's tensor differs from the
    inertia about `k` by exactly `2·ρ·(k·(first moment) − V·k²)` terms: the override is honoured for the
    centre of mass itself but the tensor is the one about the centroid only when `k` is the centroid -/
theorem C03_inertia_override_gap (S : Fin 10 → K) (rho k2 k3 : K) :
    codeI00 S rho k2 k3 - exactI00 S rho k2 k3
      = 2 * rho * (k2 * (S 2 - S 0 * k2) + k3 * (S 3 - S 0 * k3)) := by
  unfold codeI00 exactI00; ring

/-! ### frame law (`moment_inertia_frame` → `inertia.transform_inertia`, traced: Generated/C03Frame.lean) -/

section frame
open TV.Mat3 TV.FrameLaw

/-- **frame law**: for every frame with orthonormal axes `R` and origin `p`, what `moment_inertia_frame`
    computes (the traced code, fed with the code's own tensor at the centre of mass, the centre of mass
    `first moments / volume` and the mass `ρ V`) is the exact inertia tensor of the solid about `p` in the
    coordinates of the frame: `ρ (tr Q' · 1 − Q')` with `Q' = Rᵀ Q(p) R` the second moments in the frame.
    All nine entries; parallel-axis shift and change of axes together -/
theorem C03_frame_law (S : Fin 10 → K) (rho : K) (R : M3 K) (p1 p2 p3 : K) (hV : S 0 ≠ 0)
    (h1 : R.transpose * R = 1) (h2 : R * R.transpose = 1) :
    frameM R p1 p2 p3 (S 1 / S 0) (S 2 / S 0) (S 3 / S 0) (rho * S 0)
        (codeInertia S rho (S 1 / S 0) (S 2 / S 0) (S 3 / S 0))
      = exactFrame S rho R p1 p2 p3 := by
  rw [frameM_eq rfl rfl rfl, parallel_axis S rho p1 p2 p3 hV]
  exact rotate_inertia rho R _ h1 h2

/-- the tensor `codeInertia` used above has the entries of `C03_inertia_at_com` -/
theorem C03_codeInertia_entries (S : Fin 10 → K) (rho k1 k2 k3 : K) :
    (codeInertia S rho k1 k2 k3).m00 = codeI00 S rho k2 k3 ∧
    (codeInertia S rho k1 k2 k3).m01 = codeI01 S rho k1 k2 := ⟨rfl, rfl⟩

/-- the parallel-axis step alone (no rotation): the tensor about any point `p` in world axes -/
theorem C03_parallel_axis (S : Fin 10 → K) (rho p1 p2 p3 : K) (hV : S 0 ≠ 0) :
    frameM (1 : M3 K) p1 p2 p3 (S 1 / S 0) (S 2 / S 0) (S 3 / S 0) (rho * S 0)
        (codeInertia S rho (S 1 / S 0) (S 2 / S 0) (S 3 / S 0))
      = inertiaOf rho (secondAbout S p1 p2 p3) := by
  rw [frameM_eq rfl rfl rfl, parallel_axis S rho p1 p2 p3 hV, M3.transpose_one, M3.one_mul',
    M3.mul_one']

/-- non-vacuity: a quarter turn about z is orthonormal -/
example : (Rz (0 : ℚ) 1).transpose * Rz 0 1 = 1 ∧ Rz (0 : ℚ) 1 * (Rz 0 1).transpose = 1 := by
  constructor <;> simp [Rz, M3.transpose, M3.mul_def, M3.mul, M3.one_def, M3.one]

end frame

/-! ### the polynomials the compiled driver evaluates are the traced ones at `K = ℚ` -/
theorem C03_driver_uses_trace_0 (a1 a2 a3 b1 b2 b3 c1 c2 c3 : ℚ) :
    F0 a1 a2 a3 b1 b2 b3 c1 c2 c3 = TV.Generated.C03Rat.F0 a1 a2 a3 b1 b2 b3 c1 c2 c3 := by
  unfold F0 TV.Generated.C03Rat.F0; rfl
theorem C03_driver_uses_trace_1 (a1 a2 a3 b1 b2 b3 c1 c2 c3 : ℚ) :
    F1 a1 a2 a3 b1 b2 b3 c1 c2 c3 = TV.Generated.C03Rat.F1 a1 a2 a3 b1 b2 b3 c1 c2 c3 := by
  unfold F1 TV.Generated.C03Rat.F1; rfl
theorem C03_driver_uses_trace_2 (a1 a2 a3 b1 b2 b3 c1 c2 c3 : ℚ) :
    F2 a1 a2 a3 b1 b2 b3 c1 c2 c3 = TV.Generated.C03Rat.F2 a1 a2 a3 b1 b2 b3 c1 c2 c3 := by
  unfold F2 TV.Generated.C03Rat.F2; rfl
theorem C03_driver_uses_trace_3 (a1 a2 a3 b1 b2 b3 c1 c2 c3 : ℚ) :
    F3 a1 a2 a3 b1 b2 b3 c1 c2 c3 = TV.Generated.C03Rat.F3 a1 a2 a3 b1 b2 b3 c1 c2 c3 := by
  unfold F3 TV.Generated.C03Rat.F3; rfl
theorem C03_driver_uses_trace_4 (a1 a2 a3 b1 b2 b3 c1 c2 c3 : ℚ) :
    F4 a1 a2 a3 b1 b2 b3 c1 c2 c3 = TV.Generated.C03Rat.F4 a1 a2 a3 b1 b2 b3 c1 c2 c3 := by
  unfold F4 TV.Generated.C03Rat.F4; rfl
theorem C03_driver_uses_trace_5 (a1 a2 a3 b1 b2 b3 c1 c2 c3 : ℚ) :
    F5 a1 a2 a3 b1 b2 b3 c1 c2 c3 = TV.Generated.C03Rat.F5 a1 a2 a3 b1 b2 b3 c1 c2 c3 := by
  unfold F5 TV.Generated.C03Rat.F5; rfl
theorem C03_driver_uses_trace_6 (a1 a2 a3 b1 b2 b3 c1 c2 c3 : ℚ) :
    F6 a1 a2 a3 b1 b2 b3 c1 c2 c3 = TV.Generated.C03Rat.F6 a1 a2 a3 b1 b2 b3 c1 c2 c3 := by
  unfold F6 TV.Generated.C03Rat.F6; rfl
theorem C03_driver_uses_trace_7 (a1 a2 a3 b1 b2 b3 c1 c2 c3 : ℚ) :
    F7 a1 a2 a3 b1 b2 b3 c1 c2 c3 = TV.Generated.C03Rat.F7 a1 a2 a3 b1 b2 b3 c1 c2 c3 := by
  unfold F7 TV.Generated.C03Rat.F7; rfl
theorem C03_driver_uses_trace_8 (a1 a2 a3 b1 b2 b3 c1 c2 c3 : ℚ) :
    F8 a1 a2 a3 b1 b2 b3 c1 c2 c3 = TV.Generated.C03Rat.F8 a1 a2 a3 b1 b2 b3 c1 c2 c3 := by
  unfold F8 TV.Generated.C03Rat.F8; rfl
theorem C03_driver_uses_trace_9 (a1 a2 a3 b1 b2 b3 c1 c2 c3 : ℚ) :
    F9 a1 a2 a3 b1 b2 b3 c1 c2 c3 = TV.Generated.C03Rat.F9 a1 a2 a3 b1 b2 b3 c1 c2 c3 := by
  unfold F9 TV.Generated.C03Rat.F9; rfl

/-- the frame polynomials the compiled driver evaluates are the traced ones at `K = ℚ` -/
theorem C03_driver_uses_frame_trace :
    (@TV.Generated.C03Frame.frame00 ℚ _) = TV.Generated.C03FrameRat.frame00 ∧
    (@TV.Generated.C03Frame.frame01 ℚ _) = TV.Generated.C03FrameRat.frame01 ∧
    (@TV.Generated.C03Frame.frame02 ℚ _) = TV.Generated.C03FrameRat.frame02 ∧
    (@TV.Generated.C03Frame.frame10 ℚ _) = TV.Generated.C03FrameRat.frame10 ∧
    (@TV.Generated.C03Frame.frame11 ℚ _) = TV.Generated.C03FrameRat.frame11 ∧
    (@TV.Generated.C03Frame.frame12 ℚ _) = TV.Generated.C03FrameRat.frame12 ∧
    (@TV.Generated.C03Frame.frame20 ℚ _) = TV.Generated.C03FrameRat.frame20 ∧
    (@TV.Generated.C03Frame.frame21 ℚ _) = TV.Generated.C03FrameRat.frame21 ∧
    (@TV.Generated.C03Frame.frame22 ℚ _) = TV.Generated.C03FrameRat.frame22 := by
  refine ⟨?_, ?_, ?_, ?_, ?_, ?_, ?_, ?_, ?_⟩ <;> rfl

end TV.C03
