/-
C12 — Accelerated ray and proximity queries equal exhaustive evaluation.
Property theorems about the exhaustive rational model the accelerated implementations are compared with:
what the model returns is what testing every triangle returns, by these theorems, for every rational
(hence every float64) input.  The lemmas these rest on live in Proofs/Query.lean and
Proofs/QueryPrune.lean.
-/
import TrimeshVerif.Proofs.Query
import TrimeshVerif.Proofs.QueryPrune
import TrimeshVerif.Generated.C12Bary
namespace TV.C12
open TV.Query

/-- **a reported hit lies on the ray ahead of its origin and on the reported triangle** -/
theorem C12_hit_sound (o d : P) (t : Tri) (s u v : Rat) (h : rayTriangle o d t = some (s, u, v)) :
    0 < s ∧ 0 ≤ u ∧ 0 ≤ v ∧ u + v ≤ 1 ∧ add o (smul s d) = fromBary t (u, v) :=
  ((rayTriangle_eq_some_iff o d t s u v).1 h).2

/-- **no crossed triangle is missed**: if the ray meets the (non-degenerate, non-parallel) triangle at a
    point ahead of the origin, the model reports it, with that parameter -/
theorem C12_hit_complete (o d : P) (t : Tri) (s u v : Rat) (hs : 0 < s) (hu : 0 ≤ u) (hv : 0 ≤ v) (huv : u + v ≤ 1)
    (hp : add o (smul s d) = fromBary t (u, v))
    (hnd : dot (cross (sub t.2.1 t.1) (sub t.2.2 t.1)) d ≠ 0) :
    ∃ u' v', rayTriangle o d t = some (s, u', v') :=
  ⟨u, v, (rayTriangle_eq_some_iff o d t s u v).2 ⟨triNormal_def t ▸ hnd, hs, hu, hv, huv, hp⟩⟩

/-- every entry `(i, s)` of the hit list is a hit of triangle `i` at ray parameter `s` -/
theorem C12_hits_sound (o d : P) (ts : List Tri) (i : Nat) (s : Rat) (h : (i, s) ∈ rayHits o d ts) :
    ∃ t u v, ts[i]? = some t ∧ rayTriangle o d t = some (s, u, v) :=
  (mem_rayHits_iff o d ts i s).1 h

/-- the first hit is a hit and no hit is nearer -/
theorem C12_first_hit (o d : P) (ts : List Tri) (i : Nat) (s : Rat) (h : firstHit o d ts = some (i, s)) :
    (i, s) ∈ rayHits o d ts ∧ ∀ h' ∈ rayHits o d ts, s ≤ h'.2 := by
  rw [firstHit_eq_minOn?] at h
  exact ⟨List.minOn?_mem h, fun h' => le_of_minOn?_eq_some h h'⟩

/-- **the closest-point cascade returns a point of the triangle**: its barycentric weights are
    non-negative and sum to at most one (for every non-degenerate triangle) -/
theorem C12_closest_in_triangle (p : P) (t : Tri)
    (hnd : dot (cross (sub t.2.1 t.1) (sub t.2.2 t.1)) (cross (sub t.2.1 t.1) (sub t.2.2 t.1)) ≠ 0) :
    0 ≤ (closestBary p t).1 ∧ 0 ≤ (closestBary p t).2 ∧ (closestBary p t).1 + (closestBary p t).2 ≤ 1 :=
  (closestBary_spec p t ((nonDeg_def t).2 hnd)).1

/-- **and it is the nearest one**: no point of the triangle is closer to `p` -/
theorem C12_closest_optimal (p : P) (t : Tri) (s u : Rat) (hs : 0 ≤ s) (hu : 0 ≤ u) (hsu : s + u ≤ 1)
    (hnd : dot (cross (sub t.2.1 t.1) (sub t.2.2 t.1)) (cross (sub t.2.1 t.1) (sub t.2.2 t.1)) ≠ 0) :
    dist2 p (closestPointTri p t) ≤ dist2 p (fromBary t (s, u)) :=
  (closestBary_spec p t ((nonDeg_def t).2 hnd)).2 s u hs hu hsu

/-- the mesh query is the minimum over all triangles -/
theorem C12_closest_on_mesh (p : P) (ts : List Tri) (i : Nat) (q : P) (d : Rat)
    (h : closestOnMesh p ts = some (i, q, d)) :
    (∃ t, ts[i]? = some t ∧ q = closestPointTri p t ∧ d = dist2 p q) ∧
    ∀ t ∈ ts, d ≤ dist2 p (closestPointTri p t) := by
  rw [closestOnMesh_eq_minOn?] at h
  have hmin := le_of_minOn?_eq_some h
  rw [List.forall_mem_map] at hmin
  refine ⟨?_, fun t ht => ?_⟩
  · obtain ⟨⟨t, j⟩, ha, heq⟩ := List.mem_map.1 (List.minOn?_mem h)
    cases heq
    exact ⟨t, List.mem_zipIdx_iff_getElem?.1 ha, rfl, rfl⟩
  · obtain ⟨j, hget⟩ := List.mem_iff_getElem?.1 ht
    exact hmin (t, j) (List.mem_zipIdx_iff_getElem?.2 hget)

/-! ### the accelerated part: pruning with boxes loses nothing -/

/-- **`ray_bounds` is complete**: every point `o + t·d`, `t ≥ 0`, of a ray whose coordinate along the
    dominant axis of `d` lies within the tree bounds is inside the box `ray_bounds` returns — for every
    origin, every direction with components at most 1 in magnitude (unit vectors), every non-negative
    buffer, whatever the clamping of the two plane parameters did -/
theorem C12_ray_bounds_complete (o d : P) (tb : Box) (buf t : Rat) (hb : 0 ≤ buf) (ht : 0 ≤ t)
    (hd : SubUnit d) (hne : d ≠ (0, 0, 0))
    (hlo : get tb.1 (argmaxAbs d) ≤ get (add o (smul t d)) (argmaxAbs d))
    (hhi : get (add o (smul t d)) (argmaxAbs d) ≤ get tb.2 (argmaxAbs d)) :
    inBox (add o (smul t d)) (rayBounds o d tb buf) := by
  have hda := argmax_ne_zero d hne
  rw [get_add_smul] at hlo hhi
  have hbt := param_between _ _ _ _ _ hda hlo hhi
  have cx := rayBounds_complete_coord o.1 d.1 t _ _ buf hb ht hd.1 hd.2.1 hbt
  have cy := rayBounds_complete_coord o.2.1 d.2.1 t _ _ buf hb ht hd.2.2.1 hd.2.2.2.1 hbt
  have cz := rayBounds_complete_coord o.2.2 d.2.2 t _ _ buf hb ht hd.2.2.2.2.1 hd.2.2.2.2.2 hbt
  unfold rayBounds inBox
  simp only [hda, if_false, add, smul, sub, pmin, pmax]
  exact ⟨cx.1, cx.2, cy.1, cy.2, cz.1, cz.2⟩

/-- **a triangle that is hit is among the r-tree candidates** (its box meets the ray's box) -/
theorem C12_hit_is_candidate (o d : P) (ts : List Tri) (buf : Rat) (hb : 0 ≤ buf) (hd : SubUnit d)
    (t : Tri) (ht : t ∈ ts) (s u v : Rat) (h : rayTriangle o d t = some (s, u, v)) :
    boxesMeet (rayBounds o d (treeBounds ts) buf) (triBox t) = true := by
  obtain ⟨hnd, hs, hu, hv, huv, hp⟩ := (rayTriangle_eq_some_iff o d t s u v).1 h
  have hne : d ≠ (0, 0, 0) := fun e => hnd (by rw [e]; simp [dot])
  have hin := fromBary_inBox t u v hu hv huv
  rw [← hp] at hin
  have htree := inBox_treeBounds ht hin
  have hk := inBox_get htree (argmaxAbs d)
  exact boxesMeet_of_common (C12_ray_bounds_complete o d _ buf s hb (le_of_lt hs) hd hne hk.1 hk.2) hin

/-- **accelerated = exhaustive for rays**: the narrow phase run on the candidates only returns exactly
    the hits of testing every triangle, in the same order (any mesh, any origin, any unit direction) -/
theorem C12_pruning_lossless (o d : P) (ts : List Tri) (buf : Rat) (hb : 0 ≤ buf) (hd : SubUnit d) :
    rayHitsPruned o d ts buf = rayHits o d ts := by
  unfold rayHitsPruned rayHits
  apply filterMap_filter_of_imp
  intro ti hti hne
  obtain ⟨t, i⟩ := ti
  have hmem : t ∈ ts := List.mem_of_getElem? (List.mem_zipIdx_iff_getElem?.mp hti)
  simp only at hne ⊢
  cases hr : rayTriangle o d t with
  | none => simp [hr] at hne
  | some suv =>
    obtain ⟨s, u, v⟩ := suv
    exact C12_hit_is_candidate o d ts buf hb hd t hmem s u v hr

/-- the hypotheses of `C12_pruning_lossless` can be met: a unit direction, and `buffer_dist = 1e-5`, the default of
    `ray_bounds` -/
example : SubUnit ((3 : Rat) / 5, 0, (-4 : Rat) / 5) ∧ (0 : Rat) ≤ 1 / 100000 := by
  unfold SubUnit; norm_num

/-- the unit-direction hypothesis is needed: with the clamp `t < buffer_dist → buffer_dist` in ray
    parameter units, a direction of length 10^6 pushes the clamped segment past a triangle 4.5 units
    ahead of the origin and the hit is pruned away (`ray_triangle_id` meets the hypothesis by passing its
    directions through `util.unitize` first) -/
theorem C12_pruning_needs_unit_direction :
    let t : Tri := ((-1 / 2, -1, -1), (-1 / 2, 2, -1), (-1 / 2, -1, 2))
    let o : P := (-5, 1 / 10, 1 / 5)
    let d : P := (1000000, 0, 0)
    rayHits o d [t] = [(0, 9 / 2000000)] ∧ rayHitsPruned o d [t] (1 / 100000) = [] := by
  decide +kernel

/-- **`nearby_faces` keeps the triangle that attains the minimum**: if `r` is at least the distance to
    some corner of some triangle of the (non-degenerate) mesh — the code uses the nearest vertex — then the
    triangle on which the exhaustive search finds the closest point is among the candidates -/
theorem C12_nearby_complete (p : P) (ts : List Tri) (hnd : ∀ t ∈ ts, NonDeg t) (r : Rat) (hr : 0 ≤ r)
    (t' : Tri) (ht' : t' ∈ ts)
    (hcorner : dist2 p t'.1 ≤ r * r ∨ dist2 p t'.2.1 ≤ r * r ∨ dist2 p t'.2.2 ≤ r * r)
    (i : Nat) (q : P) (d : Rat) (h : closestOnMesh p ts = some (i, q, d)) :
    i ∈ nearbyFaces p r ts := by
  obtain ⟨⟨t, hti, hq, hdq⟩, hmin⟩ := C12_closest_on_mesh p ts i q d h
  have htm : t ∈ ts := List.mem_of_getElem? hti
  -- the minimum is at most the distance to the corner
  have hc := dist2_closestPointTri_le_corner p t' (hnd t' ht')
  have hd : d ≤ r * r := (hmin t' ht').trans (by
    rcases hcorner with h1 | h1 | h1
    exacts [hc.1.trans h1, hc.2.1.trans h1, hc.2.2.trans h1])
  have hq_cube : inBox q (sub p (r, r, r), add p (r, r, r)) := inBox_cube p q r hr (by rw [← hdq]; exact hd)
  have hb := (closestBary_spec p t (hnd t htm)).1
  have hq_tri : inBox q (triBox t) := hq ▸ fromBary_inBox t _ _ hb.1 hb.2.1 hb.2.2
  unfold nearbyFaces
  rw [List.mem_map]
  refine ⟨(t, i), ?_, rfl⟩
  rw [List.mem_filter]
  exact ⟨List.mem_zipIdx_iff_getElem?.mpr hti, boxesMeet_of_common hq_cube hq_tri⟩

/-! ### (G) the inclusion test of the source: `points_to_barycentric` traced (Generated/C12Bary.lean) -/

section bary
open TV.Generated.C12

/-- (G) **the barycentric weights the code computes (Cramer's rule, traced from the source) are the ones of the
    model's inclusion test**: same denominator, same numerators, for every triangle and point -/
theorem C12_barycentric_of_source (a1 a2 a3 b1 b2 b3 c1 c2 c3 p1 p2 p3 : Rat)
    (hd : cramerDen a1 a2 a3 b1 b2 b3 c1 c2 c3 p1 p2 p3 ≠ 0) :
    baryCramer ((a1, a2, a3), (b1, b2, b3), (c1, c2, c3)) (p1, p2, p3) =
      some (cramerNum1 a1 a2 a3 b1 b2 b3 c1 c2 c3 p1 p2 p3 / cramerDen a1 a2 a3 b1 b2 b3 c1 c2 c3 p1 p2 p3,
            cramerNum2 a1 a2 a3 b1 b2 b3 c1 c2 c3 p1 p2 p3 / cramerDen a1 a2 a3 b1 b2 b3 c1 c2 c3 p1 p2 p3) := by
  have e : dot (sub (b1, b2, b3) (a1, a2, a3)) (sub (b1, b2, b3) (a1, a2, a3)) *
        dot (sub (c1, c2, c3) (a1, a2, a3)) (sub (c1, c2, c3) (a1, a2, a3)) -
      dot (sub (b1, b2, b3) (a1, a2, a3)) (sub (c1, c2, c3) (a1, a2, a3)) *
        dot (sub (b1, b2, b3) (a1, a2, a3)) (sub (c1, c2, c3) (a1, a2, a3))
      = cramerDen a1 a2 a3 b1 b2 b3 c1 c2 c3 p1 p2 p3 := by
    simp only [dot, sub, cramerDen]; ring
  unfold baryCramer
  simp only [e, hd, if_false, Option.some.injEq, Prod.mk.injEq]
  constructor
  · congr 1; simp only [dot, sub, cramerNum1]; ring
  · congr 1; simp only [dot, sub, cramerNum2]; ring

/-- (G) the two methods of `points_to_barycentric` (`cramer`, `cross`) compute the same weights wherever both are
    defined (Lagrange's identity between their denominators) -/
theorem C12_barycentric_methods_agree (a1 a2 a3 b1 b2 b3 c1 c2 c3 p1 p2 p3 : Rat) :
    cramerNum1 a1 a2 a3 b1 b2 b3 c1 c2 c3 p1 p2 p3 * crossDen a1 a2 a3 b1 b2 b3 c1 c2 c3 p1 p2 p3 =
      crossNum1 a1 a2 a3 b1 b2 b3 c1 c2 c3 p1 p2 p3 * cramerDen a1 a2 a3 b1 b2 b3 c1 c2 c3 p1 p2 p3 ∧
    cramerNum2 a1 a2 a3 b1 b2 b3 c1 c2 c3 p1 p2 p3 * crossDen a1 a2 a3 b1 b2 b3 c1 c2 c3 p1 p2 p3 =
      crossNum2 a1 a2 a3 b1 b2 b3 c1 c2 c3 p1 p2 p3 * cramerDen a1 a2 a3 b1 b2 b3 c1 c2 c3 p1 p2 p3 := by
  constructor <;> simp only [cramerNum1, cramerNum2, cramerDen, crossNum1, crossNum2, crossDen]

end bary

end TV.C12
