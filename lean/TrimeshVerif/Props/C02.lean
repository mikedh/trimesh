/-
C02 — The content hash of tracked arrays always reflects their current bytes.
Property theorems only; helper lemmas live in Proofs/Tracked.lean.
The hash function is modelled as injective (hash = the list of current elements).
The model builds no heap: the theorems are about any heap `h` that is `Fresh` and, where a `copy` may happen, has no
object pointing past the last buffer (`WFHeap`, defined in Proofs/Tracked.lean beside the lemmas that use it).
-/
import TrimeshVerif.Proofs.Tracked
import TrimeshVerif.Generated.C02Flagged
namespace TV.C02
open TV.Tracked

/-- the full statement of the property for the model: after *any* program every tracked object is fresh
    (its next hash equals the hash of its current bytes).  It is FALSE for the code as it is
    (`C02_full_is_false`, from the witnesses below); `C02_hash_correct_partial` is the part that holds. -/
def C02_full (flagged : List String) : Prop :=
  ∀ (h : Heap) (ops : List Op), Fresh h → Fresh (run flagged h ops)

/-- one step keeps every object fresh, provided a write is safe (flagged method of the written tracked
    object, no other tracked observer of the written cells holds a clean memo) -/
theorem C02_step_fresh (flagged : List String) (h : Heap) (op : Op) (hf : Fresh h) (hw : WFHeap h)
    (hs : (match op with
      | .write i route cells _ => SafeWrite flagged h i route cells
      | _ => true) = true) : Fresh (step flagged h op).2 ∧ WFHeap (step flagged h op).2 :=
  ⟨step_fresh flagged h op hf hs fun _ => hw, step_wfHeap flagged h op hw⟩

/-- **partial form of the property (all programs of any length)**: if every write of the program is
    tracked for every observer at the point where it happens, then after the program every tracked
    object's hash is the hash of its current bytes -/
theorem C02_hash_correct_partial (flagged : List String) (h : Heap) (ops : List Op) (hf : Fresh h)
    (hw : WFHeap h) (hs : SafeProgram flagged h ops = true) : Fresh (run flagged h ops) := by
  induction ops generalizing h with
  | nil => exact hf
  | cons op ops ih =>
    simp only [SafeProgram, Bool.and_eq_true] at hs
    obtain ⟨h1, h2⟩ := C02_step_fresh flagged h op hf hw hs.1
    exact ih _ h1 h2 hs.2

/-- what `Fresh` buys: a hash read returns the current bytes of the object (so equal bytes give equal
    hashes and unchanged bytes an unchanged hash), and leaves the heap fresh -/
theorem C02_hash_returns_bytes (flagged : List String) (h : Heap) (i : Nat) (o : Obj) (hf : Fresh h)
    (ho : h.objs[i]? = some o) (ht : o.tracked = true) :
    (step flagged h (.hash i)).1 = some (bytesOf h o) ∧ Fresh (step flagged h (.hash i)).2 ∧
    (step flagged h (.hash i)).2.bufs = h.bufs := by
  refine ⟨?_, step_fresh flagged h (.hash i) hf rfl (fun ⟨_, e⟩ => nomatch e), ?_⟩
  · have hfo := hf o (List.mem_of_getElem? ho) ht
    simp only [step, ho, ht, Bool.not_true, Bool.false_eq_true, if_false]
    split
    · rename_i hc
      simp only [Bool.and_eq_true, Bool.not_eq_true', Option.isSome_iff_ne_none] at hc
      simpa [hc.1, hc.2] using hfo
    · rfl
  · simp only [step, ho, ht, Bool.not_true, Bool.false_eq_true, if_false]
    split <;> rfl

/-- operations that do not write leave every buffer unchanged (hence every hash of unchanged bytes) -/
theorem C02_nonwriting_keeps_bytes (flagged : List String) (h : Heap) (op : Op)
    (hop : ∀ i r c v, op ≠ .write i r c v) (j : Nat) (hj : j < h.bufs.length) :
    (step flagged h op).2.bufs[j]? = h.bufs[j]? := by
  fun_cases step flagged h op
  case case1 | case2 => exact absurd rfl (hop _ _ _ _)
  case case4 i sel tracked o hi o' h' => simp only [h', mark_bufs]
  case case6 i o hi content o' h' => simp only [h', mark_bufs]; exact List.getElem?_append_left hj
  all_goals rfl

/-- (G) every in-place method / operator of ndarray is overridden to set the flag in the current source -/
theorem C02_flagged_complete :
    inPlaceMethods.all (fun m => TV.Generated.c02Flagged.contains m) = true := by decide

/-- (G) `__array_finalize__` marks source and result, and `__hash__` only trusts a clean memo -/
theorem C02_finalize_and_hash_shape :
    TV.Generated.c02FinalizeDirtiesBoth = true ∧ TV.Generated.c02HashUsesMemoOnlyWhenClean = true := by decide

/-! ### witnesses: the full statement fails for the code as it is (each replayed on the implementation) -/

def h0 : Heap := { bufs := [[1, 2, 3, 4]], objs := [⟨0, [0, 1, 2, 3], true, true, none⟩] }

/-- hold a view, hash the parent, write through the view: the parent's hash is stale -/
theorem C02_stale_held_view :
    let ops : List Op := [.view 0 [0, 1] true, .hash 0, .write 1 (.method "__setitem__") [0] [99], .hash 0]
    ¬ Fresh (run TV.Generated.c02Flagged h0 ops) := by
  decide

/-- a numpy function writing into the array without calling an override (`np.copyto`, ufunc `out=`,
    `ufunc.at`, `.flat[...] =`, `clip(out=)`): stale -/
theorem C02_stale_function_route :
    let ops : List Op := [.hash 0, .write 0 (.func "copyto") [0] [99]]
    ¬ Fresh (run TV.Generated.c02Flagged h0 ops) := by
  decide

/-- hence the full statement is false for the flagged list of the current source -/
theorem C02_full_is_false : ¬ C02_full TV.Generated.c02Flagged := by
  intro hfull
  exact C02_stale_function_route (hfull h0 _ (by decide))

/-! non-vacuity of the partial theorem: a safe program with views, copies and writes -/
example : SafeProgram TV.Generated.c02Flagged h0
    [.hash 0, .write 0 (.method "__setitem__") [1] [7], .view 0 [0, 1] true,
     .write 0 (.method "fill") [0, 1, 2, 3] [5, 5, 5, 5], .hash 0, .hash 1, .copy 0, .hash 2] = true := by decide

end TV.C02
