/-
C04 — Homogeneous transforms act covariantly on every geometry.
The property theorems and one definition (`pathTopological`, the cache keys of a path that an affine map may keep).
`L` is an arbitrary 3x3 matrix (rigid, similarity, mirror, anisotropic scale, shear
— anything), `t` a translation; points move to `L p + t` (`transform_points`, traced in C19).
The moment functions are the exact tetrahedron moments of C03, so with `C03_closed_sum` these are statements
about the mass properties the library reports.  Over any field of characteristic zero: every statement over `K`
carries `[CharZero K]` and no proof uses it (the identities hold over any field, `/ 6`, `/ 24`, `/ 120` being
multiplication by an inverse); it is there because only then are `vol`, `first`, `second` the moments of a solid.
-/
import TrimeshVerif.Proofs.Affine
import TrimeshVerif.Proofs.GeomRat
import TrimeshVerif.Generated.C04PathTable
import Mathlib.Algebra.Order.Field.Basic
import Mathlib.Tactic.Linarith
namespace TV.C04
open TV.Mat3 TV.Moments TV.Affine

variable {K : Type} [Field K] [CharZero K]

/-- applying A then B equals applying B·A; translations compose accordingly -/
theorem C04_compose (A B : M3 K) (ta tb p : V3 K) :
    transformPoint B tb (transformPoint A ta p) = transformPoint (B * A) (add (B.apply ta) tb) p :=
  (transformPoint_comp B A tb ta p).symm

/-- applying `L` then `Li` restores every point; a left inverse `Li * L = 1` is all that is needed -/
theorem C04_inverse (L Li : M3 K) (t p : V3 K) (h : Li * L = 1) :
    transformPoint Li (smul (-1) (Li.apply t)) (transformPoint L t p) = p := by
  rw [← transformPoint_comp, h]
  simp only [transformPoint, add, smul, M3.apply, M3.one_def, M3.one]
  ext <;> ring

/-- **the orientation test is sample independent**: for every triangle (edge vectors `u`, `v`) the
    transported normal `L n` and the normal of the transported triangle satisfy
    `(L n) · (L u × L v) = det L · |n|²`, so `flips_winding` returns `det L < 0` whatever random
    triangles it draws (whenever they are non-degenerate) -/
theorem C04_flip_iff_det_neg (L : M3 K) (u v : V3 K) :
    dot (L.apply (cross u v)) (cross (L.apply u) (L.apply v)) = L.det * dot (cross u v) (cross u v) := by
  -- both sides are triple products, of `L n`, `L u`, `L v` and of `n`, `u`, `v`
  rw [dot_cross, det3_apply, ← dot_cross]

/-- the true normal of a transported triangle is the cofactor matrix applied to the old one (so a normal
    transported as `L n` stays parallel to the true normal exactly when `L n ∥ cof(L) n`: similarities) -/
theorem C04_normal_transport (L : M3 K) (u v : V3 K) :
    cross (L.apply u) (L.apply v) = (cofactor L).apply (cross u v) := by
  simp only [cross, cofactor, M3.apply, Prod.mk.injEq]
  refine ⟨?_, ?_, ?_⟩ <;> ring

/-- for a similarity (`Lᵀ L = s² · 1`) the cofactor matrix is a multiple of `L`:
    `s² · cof(L) = det L · L`, hence `L n` is parallel to the true new normal, pointing the same way iff
    `det L > 0` (the faces are re-wound exactly then, keeping normals outward) -/
theorem C04_similarity_normals (L : M3 K) (s : K) (h : L.transpose * L = M3.smul (s ^ 2) 1) :
    M3.smul (s ^ 2) (cofactor L) = M3.smul L.det L := by
  -- `cof(L) · (Lᵀ L) = (cof(L) · Lᵀ) · L`, with the hypothesis on the left and the adjugate identity on the right
  rw [← M3.mul_one' (cofactor L), ← M3.mul_smul, ← h, ← M3.mul_assoc', cofactor_mul_transpose, M3.smul_mul,
    M3.one_mul']

/-- without a similarity the transported normal is in general NOT parallel to the true one
    (witness: the shear x ↦ x + y on the triangle with edges e₁, e₃) -/
theorem C04_shear_normal_witness :
    let L : M3 ℚ := ⟨1, 1, 0, 0, 1, 0, 0, 0, 1⟩
    let n : V3 ℚ := cross (1, 0, 0) (0, 0, 1)
    cross (L.apply n) (cross (L.apply (1, 0, 0)) (L.apply (0, 0, 1))) ≠ (0, 0, 0) := by
  intro L n
  simp only [L, n, cross, M3.apply]
  norm_num

/-- **volume scales by the determinant** (per signed tetrahedron, hence for the solid); reversing a face
    negates its contribution, so after the winding flip the volume scales by `|det L|` -/
theorem C04_volume_det (L : M3 K) (a b c : V3 K) :
    vol (L.apply a) (L.apply b) (L.apply c) = L.det * vol a b c ∧ vol a c b = - vol a b c :=
  ⟨vol_apply L a b c, vol_swap a b c⟩

/-- **the centre of mass maps through L**: first moments transform as `det L · L (first moments)` -/
theorem C04_first_moment (L : M3 K) (a b c : V3 K) :
    first (L.apply a) (L.apply b) (L.apply c) = smul L.det (L.apply (first a b c)) := by
  simp only [first, T1, T2, T3, det3_apply]
  simp only [smul, M3.apply, Prod.mk.injEq]
  refine ⟨?_, ?_, ?_⟩ <;> ring

/-- **tensor law**: second moments transform as `det L · L S Lᵀ` (for a similarity of ratio `s` this is the
    `s⁵ · R I Rᵀ` law for the inertia tensor) -/
theorem C04_second_moment (L : M3 K) (a b c : V3 K) :
    second (L.apply a) (L.apply b) (L.apply c) = M3.smul L.det (L * second a b c * L.transpose) := by
  have hs := congrArg (M3.smul L.det) (M3.conj_symm L.transpose (second a b c) rfl)
  have e := second_apply_entry L a b c rfl
  -- both sides are symmetric; entry (i, j) is `e` at rows i and j of `L`, except that `second` holds the zx moment
  -- `T9` at (0, 2), so that entry is taken from (2, 0)
  exact M3.ext_of_symm rfl hs (e L.m00 L.m01 L.m02 L.m00 L.m01 L.m02) (e L.m00 L.m01 L.m02 L.m10 L.m11 L.m12)
    ((e L.m20 L.m21 L.m22 L.m00 L.m01 L.m02).trans (congrArg M3.m20 hs).symm)
    (e L.m10 L.m11 L.m12 L.m10 L.m11 L.m12) (e L.m10 L.m11 L.m12 L.m20 L.m21 L.m22)
    (e L.m20 L.m21 L.m22 L.m20 L.m21 L.m22)

/-- translation: per face the volume changes only by antisymmetric edge terms (they cancel on a closed
    surface, C03_apex_free_volume) -/
theorem C04_translation_volume (t a b c : V3 K) :
    ∃ h : V3 K → V3 K → K, (∀ u v, h u v + h v u = 0) ∧
      vol (add a t) (add b t) (add c t) = vol a b c + (h a b + h b c + h c a) :=
  ⟨vol t, vol_antisymm t, vol_add t a b c⟩

/-- squared area of a transported triangle under a similarity scales by `s⁴` -/
theorem C04_area_similarity (L : M3 K) (s : K) (h : L.transpose * L = M3.smul (s ^ 2) 1) (u v : V3 K) :
    dot (cross (L.apply u) (L.apply v)) (cross (L.apply u) (L.apply v))
      = s ^ 4 * dot (cross u v) (cross u v) := by
  rw [dot_cross_self, dot_cross_self, dot_apply_similarity L s h, dot_apply_similarity L s h,
    dot_apply_similarity L s h]
  ring

/-! ### the executable rational model run by the driver (Model/GeomRat.lean) -/
section rat
open TV.GeomRat

/-- what the driver evaluates is the generic definition at ℚ (all four by `rfl`) -/
theorem C04_rat_model_is_generic (L : M3R) (t p a b c : TV.GeomRat.V) :
    transformR L t p = transformPoint (toM3 L) t p ∧ detR L = (toM3 L).det ∧
    volR a b c = vol a b c ∧ firstR a b c = first a b c :=
  ⟨rfl, rfl, rfl, rfl⟩

/-- here `A` is the outer map: `C04_compose` with the roles of `A` and `B` exchanged -/
theorem C04_rat_compose (A B : M3R) (ta tb p : TV.GeomRat.V) :
    transformR A ta (transformR B tb p) = transformR (mulR A B) (addV (applyR A tb) ta) p :=
  C04_compose (toM3 B) (toM3 A) tb ta p

/-- for every triangle list: the signed volume of the linearly mapped triangles is `det L` times the original -/
theorem C04_rat_mesh_volume_det (L : M3R) (ts : List TV.GeomRat.Tri) :
    meshVolR (ts.map (mapTri (applyR L))) = detR L * meshVolR ts := by
  induction ts with
  | nil => simp [meshVolR]
  | cons t ts ih =>
    simp only [meshVolR, List.map_cons, List.sum_cons] at ih ⊢
    rw [ih, mul_add]
    exact congrArg (· + _) (C04_volume_det (toM3 L) t.1 t.2.1 t.2.2).1

theorem C04_rat_first_moment (L : M3R) (a b c : TV.GeomRat.V) :
    firstR (applyR L a) (applyR L b) (applyR L c) = smulV (detR L) (applyR L (firstR a b c)) :=
  C04_first_moment (toM3 L) a b c
end rat

/-! ### (G) what `Path.apply_transform` keeps in the cache -/

/-- derived values of a path that depend only on which entities join at which vertices and on which closed curve
    contains which (`C14_enclosure`): unchanged by every invertible affine map -/
def pathTopological : List String :=
  ["root", "paths", "path_valid", "dangling", "vertex_graph", "enclosure", "enclosure_shell", "enclosure_directed"]

/-- (G) **`Path.apply_transform` keeps only topological values** (Generated/C04PathTable.lean, regenerated from the
    source on every run): every cache key it copies
    across the transform is in the list above, the only value it carries over otherwise is `discrete`, mapped through
    the matrix point by point, and it verifies the cache before reading it, assigns the vertices, clears, re-stamps
    the cache id and only then puts the kept values back (the protocol of `C01_read_fresh`) -/
theorem C04_path_transform_keeps_topology_only :
    TV.Generated.C04.pathKept.all (fun k => pathTopological.contains k) = true ∧
    TV.Generated.C04.pathTransported = ["discrete"] ∧
    TV.Generated.C04.pathEvents = ["verify", "assign_vertices", "clear", "id_set", "update"] := by decide

/-! ### the identity shortcuts (`transform_points`, `apply_transform`: a matrix within 1e-8 of the identity is skipped) -/

section shortcut
variable {F : Type} [Field F] [LinearOrder F] [IsStrictOrderedRing F]

/-- **error of the identity shortcut**: if every entry of the matrix is within `eps` of the identity and every
    translation component within `eps` of zero, leaving the points where they are (what the code does below
    `1e-8`) moves each coordinate by at most `eps · (|p₁| + |p₂| + |p₃| + 1)` away from where the matrix would
    have put it; above the threshold the matrix is applied exactly (`C04_compose` …) -/
theorem C04_identity_shortcut_bound (L : M3 F) (t p : V3 F) (eps : F)
    (h00 : |L.m00 - 1| ≤ eps) (h01 : |L.m01| ≤ eps) (h02 : |L.m02| ≤ eps)
    (h10 : |L.m10| ≤ eps) (h11 : |L.m11 - 1| ≤ eps) (h12 : |L.m12| ≤ eps)
    (h20 : |L.m20| ≤ eps) (h21 : |L.m21| ≤ eps) (h22 : |L.m22 - 1| ≤ eps)
    (ht1 : |t.1| ≤ eps) (ht2 : |t.2.1| ≤ eps) (ht3 : |t.2.2| ≤ eps) :
    |(transformPoint L t p).1 - p.1| ≤ eps * (|p.1| + |p.2.1| + |p.2.2| + 1) ∧
    |(transformPoint L t p).2.1 - p.2.1| ≤ eps * (|p.1| + |p.2.1| + |p.2.2| + 1) ∧
    |(transformPoint L t p).2.2 - p.2.2| ≤ eps * (|p.1| + |p.2.1| + |p.2.2| + 1) := by
  have term : ∀ a x : F, |a| ≤ eps → |a * x| ≤ eps * |x| := fun a x ha =>
    (abs_mul a x).trans_le (mul_le_mul_of_nonneg_right ha (abs_nonneg x))
  -- a row `(a, b, c, d)` of `(L - 1 | t)` moves the coordinate by `a x + b y + c z + d`
  have key : ∀ {a b c d x y z r : F}, |a| ≤ eps → |b| ≤ eps → |c| ≤ eps → |d| ≤ eps → r = a * x + b * y + c * z + d →
      |r| ≤ eps * (|x| + |y| + |z| + 1) := by
    intro a b c d x y z r ha hb hc hd hr
    calc |r| ≤ |a * x| + |b * y| + |c * z| + |d| := hr ▸ (abs_add_le _ _).trans (add_le_add_left (abs_add_three _ _ _) _)
      _ ≤ eps * |x| + eps * |y| + eps * |z| + eps :=
          add_le_add (add_le_add (add_le_add (term a x ha) (term b y hb)) (term c z hc)) hd
      _ = eps * (|x| + |y| + |z| + 1) := by ring
  simp only [transformPoint, add, M3.apply]
  exact ⟨key h00 h01 h02 ht1 (by ring), key h10 h11 h12 ht2 (by ring), key h20 h21 h22 ht3 (by ring)⟩

end shortcut

section primitive

/-- **`Primitive.apply_transform` with a uniform scale places every point where `M` sends it**: the primitive's sizes are
    multiplied by `s` (its shape points `q` become `s q`), the translation of its current transform `(C, c)` is
    multiplied by `s`, and the new transform is `M · scale_matrix(1/s) · (C, s c)`; for `M = (s R, t)` with `s ≠ 0` the
    new primitive has the rigid transform `(R C, s R c + t)`, and its point `s q` lands exactly on `M` applied to the old
    placement of `q`.  `updatedL`, `updatedT` are the linear part and the translation of that triple product written
    out; the `add … (0, 0, 0)` in `updatedT` is the zero translation of `scale_matrix(1/s)` -/
theorem C04_primitive_transform (s : K) (hs : s ≠ 0) (R C : M3 K) (t c q : V3 K) :
    let updatedL : M3 K := (M3.smul s R) * ((M3.smul (1 / s) 1) * C)
    let updatedT : V3 K := add ((M3.smul s R).apply (add ((M3.smul (1 / s) (1 : M3 K)).apply (smul s c)) (0, 0, 0))) t
    updatedL = R * C ∧
    transformPoint updatedL updatedT (smul s q) = transformPoint (M3.smul s R) t (transformPoint C c q) := by
  dsimp only
  constructor
  · rw [M3.smul_mul (1 / s), M3.one_mul', M3.mul_smul, M3.smul_mul, M3.smul_smul, one_div_mul_cancel hs, M3.one_smul]
  -- as affine maps the new transform is `M ∘ scale(1/s) ∘ (C, s c)`, and `(C, s c)` sends `s q` to `s (C q + c)`
  rw [transformPoint_comp, transformPoint_comp, transformPoint_smul]
  congr 1
  generalize transformPoint C c q = y
  have hr : 1 / s * s = 1 := one_div_mul_cancel hs
  simp only [transformPoint, add, smul, M3.apply, M3.smul, M3.one_def, M3.one]
  ext
  · linear_combination y.1 * hr
  · linear_combination y.2.1 * hr
  · linear_combination y.2.2 * hr

/-- the factor `scale_matrix(1/s)` must stand to the right of `M`, where it leaves the translation of `M` alone: dividing
    the first three rows of `M` by the scale, translation column included, is wrong as soon as `M` translates (witness
    `M = (2 · 1, (2, 0, 0))`, a primitive at the origin).  The check of this property is demonstrated on that change to
    `Primitive.apply_transform` (C04-6 in DESIGN.md) -/
theorem C04_primitive_transform_witness :
    let s : Rat := 2
    let wrongT : V3 Rat := smul (1 / s) (2, 0, 0)      -- the translation column divided with the rows
    transformPoint (1 : M3 Rat) wrongT (smul s (1, 0, 0)) ≠ transformPoint (M3.smul s 1) (2, 0, 0) (1, 0, 0) := by
  simp [M3.one_def, transformPoint, add, smul, M3.apply, M3.smul, M3.one]

end primitive

end TV.C04
