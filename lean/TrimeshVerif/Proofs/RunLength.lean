import TrimeshVerif.Model.RunLength
/-
C13, run-length codecs.  The dense form (`rleToDense`, `brleToDenseFrom b`) is the meaning of encoded data: every
recursive function of the model, and the two loops of the strip functions, has a lemma here saying what it does to the
dense form; for the operations the model defines from these or from list functions that lemma is the theorem of
Props/C13.lean.  `rleToDense` is a `flatMap`.  A BRLE count carries its value in the parity of its position (`par`),
which the `brleFrom_*` lemmas keep track of; tagged with their positions the counts are a plain RLE
(`rle_zip_range'`), which is how `brle_to_rle` and `brle_strip` treat them.  Core Lean only.
-/
namespace TV.RunLength

/-- parity of a position: `true` for odd -/
def par (n : Nat) : Bool := n % 2 == 1

@[simp] theorem par_zero : par 0 = false := rfl

@[simp] theorem par_succ (n : Nat) : par (n + 1) = !par n := by
  unfold par
  rcases Nat.mod_two_eq_zero_or_one n with h | h
  · rw [Nat.add_mod, h]; rfl
  · rw [Nat.add_mod, h]; rfl

theorem par_def (n : Nat) : (n % 2 == 1) = par n := rfl

section rle
variable {α : Type}

@[simp] theorem rleToDense_nil : rleToDense ([] : List (α × Nat)) = [] := rfl

@[simp] theorem rleToDense_cons (v : α) (c : Nat) (t : List (α × Nat)) :
    rleToDense ((v, c) :: t) = List.replicate c v ++ rleToDense t := rfl

/-- every run expands to its copies: all the `flatMap` lemmas of the library apply -/
theorem rleToDense_eq_flatMap (rs : List (α × Nat)) :
    rleToDense rs = rs.flatMap (fun r => List.replicate r.2 r.1) := by
  induction rs with
  | nil => rfl
  | cons r t ih => rw [rleToDense_cons, ih, List.flatMap_cons]

theorem rleToDense_append (a b : List (α × Nat)) :
    rleToDense (a ++ b) = rleToDense a ++ rleToDense b := by
  simp only [rleToDense_eq_flatMap, List.flatMap_append]

theorem rleToDense_replicate (k m : Nat) (v : α) :
    rleToDense (List.replicate k (v, m)) = List.replicate (k * m) v := by
  rw [rleToDense_eq_flatMap, List.flatMap_replicate, List.flatten_replicate_replicate]

theorem rleToDense_flatMap (f : α × Nat → List (α × Nat)) (rs : List (α × Nat))
    (h : ∀ r, rleToDense (f r) = List.replicate r.2 r.1) :
    rleToDense (rs.flatMap f) = rleToDense rs := by
  rw [rleToDense_eq_flatMap, List.flatMap_assoc, rleToDense_eq_flatMap rs, List.flatMap_def, List.flatMap_def]
  exact congrArg List.flatten (List.map_congr_left (fun r _ => by rw [← rleToDense_eq_flatMap, h]))

theorem length_rleToDense (rs : List (α × Nat)) : (rleToDense rs).length = (rs.map (·.2)).sum := by
  rw [rleToDense_eq_flatMap, List.length_flatMap]
  simp only [List.length_replicate]

theorem rleToDense_head (v : α) (c : Nat) (t : List (α × Nat)) (hc : 0 < c) :
    (rleToDense ((v, c) :: t)).head? = some v := by
  cases c with
  | zero => omega
  | succ c => simp [List.replicate_succ]

theorem rleToDense_getLast (v : α) (c : Nat) (t : List (α × Nat)) (hc : 0 < c) :
    (rleToDense (t ++ [(v, c)])).getLast? = some v := by
  cases c with
  | zero => omega
  | succ c => simp [rleToDense_append, List.replicate_succ']

theorem runsOf_dense [DecidableEq α] (d : List α) : rleToDense (runsOf d) = d := by
  -- whichever way `x` joins the runs of `xs`, they expand to `x` followed by what those expand to
  fun_induction runsOf d with
  | case1 => rfl
  | case2 xs x c t heq ih => rw [← ih, heq]; rfl
  | case3 x xs v c t heq hv ih => rw [← ih, heq]; rfl
  | case4 x xs heq ih => rw [← ih, heq]; rfl

theorem runsOf_eq_nil [DecidableEq α] (d : List α) (h : runsOf d = []) : d = [] := by
  have := runsOf_dense d
  rw [h] at this
  exact this.symm

theorem runsOf_head [DecidableEq α] (d : List α) :
    (runsOf d).head?.map (·.1) = d.head? := by
  fun_cases runsOf d <;> rfl

theorem splitLongRle_dense (m : Nat) (rs : List (α × Nat)) :
    rleToDense (splitLongRle m rs) = rleToDense rs := by
  unfold splitLongRle
  split
  · apply rleToDense_flatMap
    intro r
    rw [rleToDense_append, rleToDense_replicate]
    simp only [rleToDense_cons, rleToDense_nil, List.append_nil, List.replicate_append_replicate]
    congr 1
    rw [Nat.mul_comm]
    exact Nat.div_add_mod r.2 m
  · rfl

theorem splitLongRle_fit (m : Nat) (hm : 1 ≤ m) (rs : List (α × Nat)) :
    ∀ r ∈ splitLongRle m rs, r.2 ≤ m := by
  unfold splitLongRle
  split
  · intro r hr
    simp only [List.mem_flatMap, List.mem_append, List.mem_replicate, List.mem_singleton] at hr
    obtain ⟨q, _, hq⟩ := hr
    rcases hq with ⟨_, rfl⟩ | rfl
    · exact Nat.le_refl _
    · exact Nat.le_of_lt (Nat.mod_lt _ hm)
  · rename_i hany
    intro r hr
    simp only [List.any_eq_true, bne_iff_ne, ne_eq, not_exists, not_and, Decidable.not_not] at hany
    have := hany r hr
    have h2 : r.2 < m := (Nat.div_eq_zero_iff_lt hm).1 this
    omega

theorem mergeRle_dense [DecidableEq α] (rs : List (α × Nat)) :
    rleToDense (mergeRle rs) = rleToDense rs := by
  fun_induction mergeRle rs with
  | case1 => rfl
  | case2 v t ih => exact ih
  | case3 c t hc v c' t' heq ih =>
    rw [rleToDense_cons, ← List.replicate_append_replicate, List.append_assoc, ← rleToDense_cons, ← heq, ih]; rfl
  | case4 v c t hc v' c' t' heq hv ih => rw [← heq, rleToDense_cons, ih]; rfl
  | case5 v c t hc heq ih => rw [rleToDense_cons (t := t), ← ih, heq]; rfl

end rle

/-! ### BRLE: the dense form from a starting value -/

@[simp] theorem brleFrom_nil (b : Bool) : brleToDenseFrom b [] = [] := rfl

@[simp] theorem brleFrom_cons (b : Bool) (c : Nat) (t : List Nat) :
    brleToDenseFrom b (c :: t) = List.replicate c b ++ brleToDenseFrom (!b) t := rfl

theorem brleToDense_zero_cons (cs : List Nat) : brleToDense (0 :: cs) = brleToDenseFrom true cs := rfl

theorem brleFrom_append (b : Bool) (xs ys : List Nat) :
    brleToDenseFrom b (xs ++ ys) =
      brleToDenseFrom b xs ++ brleToDenseFrom (b ^^ par xs.length) ys := by
  induction xs generalizing b with
  | nil => simp
  | cons c t ih =>
    simp only [List.cons_append, brleFrom_cons, ih, List.length_cons, par_succ, List.append_assoc]
    cases b <;> cases par t.length <;> rfl

theorem brleFrom_snoc (b : Bool) (xs : List Nat) (c : Nat) :
    brleToDenseFrom b (xs ++ [c]) =
      brleToDenseFrom b xs ++ List.replicate c (b ^^ par xs.length) := by
  rw [brleFrom_append]; simp

theorem brleFrom_snoc_zero (b : Bool) (xs : List Nat) :
    brleToDenseFrom b (xs ++ [0]) = brleToDenseFrom b xs := by
  rw [brleFrom_snoc]; simp

/-- the two moves of an encoder that keeps its output reversed: push a count, which starts a run of the value
    opposite to the last one ... -/
theorem brleFrom_reverse_cons (c : Nat) (out : List Nat) :
    brleToDenseFrom false (c :: out).reverse
      = brleToDenseFrom false out.reverse ++ List.replicate c (par out.length) := by
  rw [List.reverse_cons, brleFrom_snoc, List.length_reverse, Bool.false_xor]

/-- ... or add to the last count, which prolongs the last run -/
theorem brleFrom_reverse_add (o c : Nat) (os : List Nat) :
    brleToDenseFrom false ((o + c) :: os).reverse
      = brleToDenseFrom false (o :: os).reverse ++ List.replicate c (par os.length) := by
  rw [brleFrom_reverse_cons, brleFrom_reverse_cons, List.append_assoc, List.replicate_append_replicate]

theorem brleFrom_map_not (b : Bool) (xs : List Nat) :
    (brleToDenseFrom b xs).map (!·) = brleToDenseFrom (!b) xs := by
  induction xs generalizing b with
  | nil => rfl
  | cons c t ih => simp [ih]

theorem brleFrom_length (b : Bool) (xs : List Nat) :
    (brleToDenseFrom b xs).length = xs.sum := by
  induction xs generalizing b with
  | nil => rfl
  | cons c t ih => simp [ih]

theorem brleFrom_reverse (b : Bool) (ls : List Nat) :
    (brleToDenseFrom b ls).reverse = brleToDenseFrom (b ^^ par ls.length ^^ true) ls.reverse := by
  induction ls generalizing b with
  | nil => rfl
  | cons c t ih =>
    simp only [brleFrom_cons, List.reverse_append, List.reverse_replicate, ih, List.reverse_cons,
      brleFrom_snoc, List.length_cons, par_succ, List.length_reverse]
    cases b <;> cases par t.length <;> rfl

/-! ### runs of a boolean sequence alternate -/

/-- read from the value of the first element (from any value if there is none), the counts of the runs alone give
    the sequence back -/
theorem runsOf_brle (d : List Bool) (b : Bool) :
    brleToDenseFrom (d.head?.getD b) ((runsOf d).map (·.2)) = d := by
  -- the first run of `xs` has the value of its head (`runsOf_head`): `x` prolongs that run, or has the other value
  -- and goes in front of it
  fun_induction runsOf d with
  | case1 => rfl
  | case2 xs x c t heq ih => rw [← runsOf_head, heq] at ih; exact congrArg (List.cons x) ih
  | case3 x xs v c t heq hv ih => rw [← runsOf_head, heq, Bool.eq_not.2 hv] at ih; exact congrArg (List.cons x) ih
  | case4 x xs heq ih => rw [runsOf_eq_nil xs heq]; rfl

/-! ### BRLE split and merge -/

theorem brleFrom_chunks (b : Bool) (k m r : Nat) (rest : List Nat) :
    brleToDenseFrom b ((List.replicate k [m, 0]).flatten ++ [r] ++ rest) =
      List.replicate (k * m + r) b ++ brleToDenseFrom (!b) rest := by
  induction k with
  | zero => simp
  | succ k ih =>
    simp only [List.replicate_succ, List.flatten_cons, List.cons_append, List.nil_append,
      brleFrom_cons, Bool.not_not, List.replicate_zero, List.append_assoc] at ih ⊢
    rw [ih, ← List.append_assoc, List.replicate_append_replicate]
    congr 2
    rw [Nat.succ_mul]; omega

theorem brleFrom_flatMap (b : Bool) (m : Nat) (ls : List Nat) :
    brleToDenseFrom b
      (ls.flatMap (fun l => (List.replicate (l / m) [m, 0]).flatten ++ [l % m])) =
      brleToDenseFrom b ls := by
  induction ls generalizing b with
  | nil => rfl
  | cons l t ih =>
    rw [List.flatMap_cons, brleFrom_chunks, brleFrom_cons, ih]
    congr 2
    rw [Nat.mul_comm]
    exact Nat.div_add_mod l m

theorem splitLongBrle_dense (b : Bool) (m : Nat) (ls : List Nat) :
    brleToDenseFrom b (splitLongBrle m ls) = brleToDenseFrom b ls := by
  unfold splitLongBrle
  split
  · exact brleFrom_flatMap b m ls
  · rfl

theorem splitLongBrle_fit (m : Nat) (hm : 1 ≤ m) (ls : List Nat) :
    ∀ c ∈ splitLongBrle m ls, c ≤ m := by
  unfold splitLongBrle
  split
  · intro c hc
    simp only [List.mem_flatMap, List.mem_append, List.mem_flatten, List.mem_replicate,
      List.mem_singleton] at hc
    obtain ⟨l, _, hl⟩ := hc
    rcases hl with ⟨x, ⟨_, rfl⟩, hx⟩ | rfl
    · simp at hx
      rcases hx with rfl | rfl <;> omega
    · exact Nat.le_of_lt (Nat.mod_lt _ hm)
  · rename_i hany
    intro c hc
    simp only [List.any_eq_true, decide_eq_true_eq, not_exists, not_and, Nat.not_lt] at hany
    exact hany c hc

theorem mergeBrleAux_dense (t : List Nat) (o : Nat) (os : List Nat) (acc : Bool) :
    brleToDenseFrom false (mergeBrleAux (o :: os) acc t) =
      brleToDenseFrom false (o :: os).reverse ++
        brleToDenseFrom (par (os.length + 1) ^^ acc) t := by
  induction t generalizing o os acc with
  | nil => simp [mergeBrleAux]
  | cons l t ih =>
    cases acc with
    | true =>
      rw [mergeBrleAux, ih, brleFrom_reverse_add, brleFrom_cons, List.append_assoc, par_succ, Bool.xor_true,
        Bool.xor_false, Bool.not_not]
    | false =>
      rw [mergeBrleAux]
      split
      · rename_i hl
        rw [ih, hl, brleFrom_cons, List.replicate_zero, List.nil_append, Bool.xor_true, Bool.xor_false]
      · rw [ih, brleFrom_reverse_cons l, brleFrom_cons, List.append_assoc, List.length_cons, Bool.xor_false,
          Bool.xor_false, par_succ (os.length + 1)]

theorem mergeBrle_dense (ls : List Nat) :
    brleToDense (mergeBrle ls) = brleToDense ls := by
  cases ls with
  | nil => rfl
  | cons l t =>
    unfold mergeBrle brleToDense
    rw [mergeBrleAux_dense]
    simp

/-! ### conversions between the two codecs -/

/-- counts tagged with their positions are an RLE (the value of a run is the parity of its position) of the
    same dense form -/
theorem rle_zip_range' (ls : List Nat) (s : Nat) :
    rleToDense (((List.range' s ls.length).zip ls).map (Prod.map par id)) = brleToDenseFrom (par s) ls := by
  induction ls generalizing s with
  | nil => simp
  | cons c t ih =>
    simp only [List.length_cons, List.range'_succ, List.zip_cons_cons, List.map_cons, Prod.map_apply, id,
      rleToDense_cons, brleFrom_cons, ih, par_succ]

/-- the value the encoder is at is the parity of the position of its last count -/
theorem rleToBrleAux_spec (rs : List (Int × Nat)) (o : Nat) (os : List Nat)
    (h : ∀ r ∈ rs, r.1 = 0 ∨ r.1 = 1) :
    (rleToBrleAux (o :: os) (par os.length).toInt rs).map (brleToDenseFrom false) =
      some (brleToDenseFrom false (o :: os).reverse ++ (rleToDense rs).map (· != 0)) := by
  induction rs generalizing o os with
  | nil => simp [rleToBrleAux]
  | cons r t ih =>
    obtain ⟨v, c⟩ := r
    have ht : ∀ r ∈ t, r.1 = 0 ∨ r.1 = 1 := fun r hr => h r (List.mem_cons_of_mem _ hr)
    -- the run has the value of the last count, and is added to it, or the other value, and gets a count of its own
    have hv : v = (par os.length).toInt ∨ v = (par (o :: os).length).toInt := by
      rw [List.length_cons, par_succ]
      cases par os.length
      · exact h (v, c) List.mem_cons_self
      · exact (h (v, c) List.mem_cons_self).symm
    have hok : ∀ p : Bool, ¬(p.toInt != 0 && p.toInt != 1) = true := by decide
    have hne : ∀ p : Bool, ¬(!p).toInt = p.toInt := by decide
    have hb : ∀ p : Bool, (p.toInt != 0) = p := by decide
    rw [rleToDense_cons, List.map_append, List.map_replicate, ← List.append_assoc, rleToBrleAux]
    rcases hv with rfl | rfl
    · rw [if_neg (hok _), if_pos rfl, ih (o + c) os ht, brleFrom_reverse_add, hb]
    · rw [if_neg (hok _), if_neg (by rw [List.length_cons, par_succ]; exact hne _), ih c (o :: os) ht,
        brleFrom_reverse_cons c, hb]

/-! ### gather, mask, sparse: what each recursion does to the dense form -/

theorem rleAt_eq {α : Type} (rs : List (α × Nat)) (i : Nat) :
    rleAt rs i = (rleToDense rs)[i]? := by
  induction rs generalizing i with
  | nil => simp [rleAt]
  | cons r t ih =>
    obtain ⟨v, c⟩ := r
    simp only [rleAt, rleToDense_cons, List.getElem?_append, List.length_replicate,
      List.getElem?_replicate, ih]
    split <;> rfl

theorem brleAtFrom_eq (b : Bool) (ls : List Nat) (i : Nat) :
    brleAtFrom b ls i = (brleToDenseFrom b ls)[i]? := by
  induction ls generalizing b i with
  | nil => simp [brleAtFrom]
  | cons c t ih =>
    simp only [brleAtFrom, brleFrom_cons, List.getElem?_append, List.length_replicate,
      List.getElem?_replicate, ih]
    split <;> rfl

theorem zip_replicate_mask {α : Type} (c : Nat) (v : α) (rest : List α) (mask : List Bool) :
    ((List.replicate c v ++ rest).zip mask).filterMap (fun p => if p.2 then some p.1 else none) =
      ((mask.take c).filter id).map (fun _ => v) ++
        (rest.zip (mask.drop c)).filterMap (fun p => if p.2 then some p.1 else none) := by
  induction c generalizing mask with
  | zero => simp
  | succ c ih =>
    cases mask with
    | nil => simp
    | cons x mask =>
      simp only [List.replicate_succ, List.cons_append, List.zip_cons_cons, List.take_succ_cons,
        List.drop_succ_cons]
      cases x <;> simp [ih]

theorem rleMask_eq {α : Type} (rs : List (α × Nat)) (mask : List Bool) :
    rleMask rs mask = ((rleToDense rs).zip mask).filterMap (fun p => if p.2 then some p.1 else none) := by
  induction rs generalizing mask with
  | nil => simp [rleMask]
  | cons r t ih =>
    obtain ⟨v, c⟩ := r
    rw [rleMask, rleToDense_cons, zip_replicate_mask, ih]

theorem brleMaskFrom_eq (b : Bool) (ls : List Nat) (mask : List Bool) :
    brleMaskFrom b ls mask =
      ((brleToDenseFrom b ls).zip mask).filterMap (fun p => if p.2 then some p.1 else none) := by
  induction ls generalizing b mask with
  | nil => simp [brleMaskFrom]
  | cons c t ih =>
    rw [brleMaskFrom, brleFrom_cons, zip_replicate_mask, ih]

theorem zipIdx_replicate {α : Type} (c : Nat) (v : α) (i : Nat) :
    (List.replicate c v).zipIdx i = (List.range c).map (fun k => (v, i + k)) := by
  induction c generalizing i with
  | zero => rfl
  | succ c ih =>
    rw [List.replicate_succ, List.zipIdx_cons, ih, List.range_succ_eq_map]
    simp only [List.map_cons, List.map_map, Nat.add_zero, List.cons.injEq, true_and]
    apply List.map_congr_left
    intro k _
    simp only [Function.comp, Nat.succ_eq_add_one, Prod.mk.injEq, true_and]
    omega

/-- one run with its positions: a test on the value keeps all of it or nothing -/
theorem filter_run {α β : Type} (c i : Nat) (v : α) (p : α → Bool) (g : α × Nat → β) :
    (((List.replicate c v).zipIdx i).filter (fun x => p x.1)).map g
      = if p v then (List.range c).map (fun k => g (v, i + k)) else [] := by
  rw [zipIdx_replicate]
  cases hp : p v
  · rw [List.filter_eq_nil_iff.2 (fun x hx => by
      obtain ⟨k, _, rfl⟩ := List.mem_map.1 hx
      rw [hp]; exact Bool.false_ne_true)]
    rfl
  · rw [List.filter_eq_self.2 (fun x hx => by
      obtain ⟨k, _, rfl⟩ := List.mem_map.1 hx
      exact hp), List.map_map]
    rfl

theorem rleToSparseAux_eq (rs : List (Int × Nat)) (i : Nat) :
    rleToSparseAux i rs =
      (((rleToDense rs).zipIdx i).filter (fun p => p.1 != 0)).map (fun p => (p.2, p.1)) := by
  induction rs generalizing i with
  | nil => rfl
  | cons r t ih =>
    obtain ⟨v, c⟩ := r
    rw [rleToSparseAux, rleToDense_cons, List.zipIdx_append, List.filter_append, List.map_append,
      List.length_replicate, ih, filter_run c i v (· != 0)]

theorem brleToSparseAux_eq (ls : List Nat) (b : Bool) (i : Nat) :
    brleToSparseAux i b ls =
      (((brleToDenseFrom b ls).zipIdx i).filter (fun p => p.1)).map (·.2) := by
  induction ls generalizing b i with
  | nil => rfl
  | cons c t ih =>
    rw [brleToSparseAux, brleFrom_cons, List.zipIdx_append, List.filter_append, List.map_append,
      List.length_replicate, ih, filter_run c i b (fun b => b)]
    simp only [Nat.add_comm]

/-! ### stripping a list from both ends; stripping the runs without data -/

section strip
variable {α : Type}

/-- what `rle_strip` / `brle_strip` keep of a list of runs: all but its `q`-prefix and its `q`-suffix -/
def stripped (q : α → Bool) (l : List α) : List α :=
  (l.take (l.length - (l.reverse.takeWhile q).length)).drop (l.takeWhile q).length

/-- a list with some non-`q` element is a `q`-prefix, a core whose first and last elements are not `q`, a `q`-suffix -/
theorem exists_core (q : α → Bool) (l : List α) (h : ∃ x ∈ l, q x = false) :
    ∃ X a t b t' Y, l = X ++ a :: t ++ Y ∧ a :: t = t' ++ [b] ∧ (∀ x ∈ X, q x = true) ∧ (∀ y ∈ Y, q y = true) ∧
      q a = false ∧ q b = false := by
  induction l with
  | nil => obtain ⟨x, hx, _⟩ := h; cases hx
  | cons c l ih =>
    cases hl : l.all q with
    | true =>
      have hl := List.all_eq_true.1 hl
      obtain ⟨x, hx, hqx⟩ := h
      rcases List.mem_cons.1 hx with rfl | hx
      · exact ⟨[], x, [], x, [], l, rfl, rfl, (fun _ h => nomatch h), hl, hqx, hqx⟩
      · rw [hl x hx] at hqx; cases hqx
    | false =>
      obtain ⟨X, a, t, b, t', Y, rfl, hab, hX, hY, hqa, hqb⟩ := ih (by simpa using hl)
      cases hc : q c with
      | true => exact ⟨c :: X, a, t, b, t', Y, rfl, hab, List.forall_mem_cons.2 ⟨hc, hX⟩, hY, hqa, hqb⟩
      | false =>
        exact ⟨[], c, X ++ a :: t, b, c :: X ++ t', Y, rfl, by rw [hab, ← List.append_assoc]; rfl,
          (fun _ h => nomatch h), hY, hc, hqb⟩

theorem stripped_eq (q : α → Bool) (X Y t t' : List α) (a b : α) (hab : a :: t = t' ++ [b])
    (hX : ∀ x ∈ X, q x = true) (hY : ∀ y ∈ Y, q y = true) (hqa : q a = false) (hqb : q b = false) :
    (X ++ a :: t ++ Y).takeWhile q = X ∧ (X ++ a :: t ++ Y).reverse.takeWhile q = Y.reverse ∧
      stripped q (X ++ a :: t ++ Y) = a :: t := by
  have h1 : (X ++ a :: t ++ Y).takeWhile q = X := by
    rw [List.append_assoc, List.takeWhile_append_of_pos hX, List.cons_append,
      List.takeWhile_cons_of_neg (by simp [hqa]), List.append_nil]
  have h2 : (X ++ a :: t ++ Y).reverse.takeWhile q = Y.reverse := by
    rw [List.reverse_append, List.reverse_append, hab, List.reverse_append, List.reverse_singleton,
      List.takeWhile_append_of_pos (fun y hy => hY y (List.mem_reverse.1 hy)), List.append_assoc,
      List.singleton_append, List.takeWhile_cons_of_neg (by simp [hqb]), List.append_nil]
  refine ⟨h1, h2, ?_⟩
  unfold stripped
  rw [h1, h2, List.length_reverse, List.length_append, Nat.add_sub_cancel, List.take_left' rfl,
    List.drop_left' rfl]

end strip

/-! Runs without data (`q`) stripped from both ends of a list whose elements stand for runs through `f`: the counts
    themselves for RLE, the counts with their positions for BRLE.  `z` is the value that is no data. -/

section stripDense
variable {α β : Type} (f : β → α × Nat) (z : α) (q : β → Bool)

theorem rleToDense_eq_replicate (l : List β) (h : ∀ x ∈ l, (f x).1 = z ∨ (f x).2 = 0) :
    rleToDense (l.map f) = List.replicate (l.map (fun x => (f x).2)).sum z := by
  induction l with
  | nil => rfl
  | cons x t ih =>
    rw [List.map_cons, rleToDense_cons, ih (fun y hy => h y (List.mem_cons_of_mem _ hy)), List.map_cons,
      List.sum_cons, ← List.replicate_append_replicate]
    congr 1
    rcases h x List.mem_cons_self with hx | hx
    · rw [hx]
    · rw [hx]; rfl

variable (hq : ∀ x, q x = true → (f x).1 = z ∨ (f x).2 = 0)
include hq

theorem exists_data (l : List β) (h : ∃ v ∈ rleToDense (l.map f), v ≠ z) : ∃ x ∈ l, q x = false := by
  cases hall : l.all q with
  | false => simpa using hall
  | true =>
    -- runs that are all without data expand to `z`s only
    obtain ⟨v, hv, hv0⟩ := h
    rw [rleToDense_eq_replicate f z l (fun x hx => hq x (List.all_eq_true.1 hall x hx))] at hv
    exact absurd (List.eq_of_mem_replicate hv) hv0

/-- the stripped runs expand to `z`s; what is left begins with a run of data and its dense form starts and ends
    with a value other than `z` -/
theorem strip_dense (hq' : ∀ x, q x = false → (f x).1 ≠ z ∧ 0 < (f x).2) (l : List β)
    (h : ∃ v ∈ rleToDense (l.map f), v ≠ z) :
    ∃ x t v w, stripped q l = x :: t ∧ q x = false ∧
      List.replicate ((l.takeWhile q).map (fun x => (f x).2)).sum z ++ rleToDense ((stripped q l).map f) ++
        List.replicate ((l.reverse.takeWhile q).map (fun x => (f x).2)).sum z = rleToDense (l.map f) ∧
      v ≠ z ∧ w ≠ z ∧ (rleToDense ((stripped q l).map f)).head? = some v ∧
      (rleToDense ((stripped q l).map f)).getLast? = some w := by
  obtain ⟨X, x, t, y, t', Y, rfl, hxy, hX, hY, hqx, hqy⟩ := exists_core q l (exists_data f z q hq l h)
  obtain ⟨h1, h2, h3⟩ := stripped_eq q X Y t t' x y hxy hX hY hqx hqy
  obtain ⟨hv, hc⟩ := hq' _ hqx
  obtain ⟨hw, hd⟩ := hq' _ hqy
  rw [h1, h2, h3]
  refine ⟨x, t, (f x).1, (f y).1, rfl, hqx, ?_, hv, hw, by rw [List.map_cons, rleToDense_head _ _ _ hc],
    by rw [hxy, List.map_append, List.map_singleton, rleToDense_getLast _ _ _ hd]⟩
  rw [List.map_append, List.map_append, rleToDense_append, rleToDense_append,
    rleToDense_eq_replicate f z X (fun r hr => hq r (hX r hr)),
    rleToDense_eq_replicate f z Y (fun r hr => hq r (hY r hr)), List.map_reverse, List.sum_reverse_nat]

end stripDense

/-- the loop condition of `rle_strip`, which `rleStrip` has inline as `fun r => !isData r`: the run carries no data
    (zero value or zero count) -/
def rleNotData (r : Int × Nat) : Bool := !(r.1 != 0 && decide (r.2 > 0))

theorem rleStrip_eq (rs : List (Int × Nat)) : rleStrip rs =
    (stripped rleNotData rs, ((rs.takeWhile rleNotData).map (·.2)).sum,
      ((rs.reverse.takeWhile rleNotData).map (·.2)).sum) := rfl

theorem rleNotData_false (r : Int × Nat) (h : rleNotData r = false) : r.1 ≠ 0 ∧ 0 < r.2 := by
  simpa [rleNotData] using h

theorem rleNotData_true (r : Int × Nat) (h : rleNotData r = true) : r.1 = 0 ∨ r.2 = 0 := by
  simpa [rleNotData, or_comm] using h

/-- the loop condition of `brle_strip` on (position, count), inline in `brleStrip` likewise: not a non-empty True run -/
def brleNotData (r : Nat × Nat) : Bool := !(r.1 % 2 == 1 && decide (r.2 > 0))

/-- `brle_strip` finds the two ends on the counts tagged with their positions and cuts the counts themselves -/
theorem brleStrip_eq (ls : List Nat) : brleStrip ls =
    (0 :: (ls.take (ls.length - (((List.range ls.length).zip ls).reverse.takeWhile brleNotData).length)).drop
        (((List.range ls.length).zip ls).takeWhile brleNotData).length,
      ((((List.range ls.length).zip ls).takeWhile brleNotData).map (·.2)).sum,
      ((((List.range ls.length).zip ls).reverse.takeWhile brleNotData).map (·.2)).sum) := rfl

theorem brleNotData_false (r : Nat × Nat) (h : brleNotData r = false) : par r.1 ≠ false ∧ 0 < r.2 := by
  simpa [brleNotData, par] using h

theorem brleNotData_true (r : Nat × Nat) (h : brleNotData r = true) : par r.1 = false ∨ r.2 = 0 := by
  simpa [brleNotData, par, or_comm] using h

theorem zip_range_slice (ls : List Nat) (a i : Nat) :
    (((List.range ls.length).zip ls).take a).drop i =
      (List.range' i ((ls.take a).drop i).length).zip ((ls.take a).drop i) := by
  rw [List.zip_eq_zipWith, List.take_zipWith, List.drop_zipWith, List.take_range, List.range_eq_range',
    List.drop_range', List.length_drop, List.length_take, Nat.zero_add, Nat.mul_one, List.zip_eq_zipWith]

end TV.RunLength
