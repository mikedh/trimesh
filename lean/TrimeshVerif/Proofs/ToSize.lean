/-
`remesh.subdivide_to_size` (C18), face by face: a triangle with an edge longer than the bound is replaced by its four
children, again and again, at most `max_iter` times.  Lengths are compared as squares.
-/
import TrimeshVerif.Proofs.Remesh
import Mathlib.Algebra.Order.Field.Basic
import Mathlib.Tactic.Linarith
import Mathlib.Tactic.Ring
namespace TV.ToSize
open TV.Mat3 TV.Moments TV.Affine TV.Remesh

variable {F : Type} [Field F] [LinearOrder F] [IsStrictOrderedRing F]

abbrev Tri (F : Type) := V3 F × V3 F × V3 F

def len2 (p q : V3 F) : F := dot (sub q p) (sub q p)

def maxEdge2 (t : Tri F) : F := max (max (len2 t.1 t.2.1) (len2 t.2.1 t.2.2)) (len2 t.2.2 t.1)

/-- `too_long = (edge_length > max_edge).any(axis=1)` is false -/
def small (m2 : F) (t : Tri F) : Prop := maxEdge2 t ≤ m2

instance (m2 : F) (t : Tri F) : Decidable (small m2 t) := by unfold small; infer_instance

/-- one face through the loop of `subdivide_to_size` with `fuel` subdivisions left; `none` = "max_iter exceeded" -/
def toSize (m2 : F) : Nat → Tri F → Option (List (Tri F))
  | 0, t => if small m2 t then some [t] else none
  | fuel + 1, t =>
    if small m2 t then some [t]
    else ((children t.1 t.2.1 t.2.2).mapM (toSize m2 fuel)).map List.flatten

omit [LinearOrder F] [IsStrictOrderedRing F] in
theorem len2_mid [CharZero F] (a b c : V3 F) :
    len2 a (midpoint a b) * 4 = len2 a b ∧ len2 (midpoint a b) b * 4 = len2 a b ∧
    len2 (midpoint a b) (midpoint b c) * 4 = len2 a c ∧ len2 (midpoint a b) (midpoint c a) * 4 = len2 b c := by
  simp only [len2, dot, sub, midpoint]
  refine ⟨?_, ?_, ?_, ?_⟩ <;> ring

omit [LinearOrder F] [IsStrictOrderedRing F] in
theorem len2_symm (p q : V3 F) : len2 p q = len2 q p := by
  simp only [len2, dot, sub]; ring

theorem child_maxEdge2 (a b c : V3 F) : ∀ t ∈ children a b c, maxEdge2 t * 4 = maxEdge2 (a, b, c) := by
  intro t ht
  obtain ⟨ab1, ab2, ab3, ab4⟩ := len2_mid a b c
  obtain ⟨bc1, bc2, bc3, bc4⟩ := len2_mid b c a
  obtain ⟨ca1, ca2, ca3, ca4⟩ := len2_mid c a b
  have m4 : ∀ x y : F, max x y * 4 = max (x * 4) (y * 4) := fun x y => max_mul_of_nonneg x y (by norm_num)
  simp only [children, List.mem_cons, List.not_mem_nil, or_false] at ht
  rcases ht with rfl | rfl | rfl | rfl <;>
    simp only [maxEdge2, m4, ab1, ab2, ab3, ab4, bc1, bc2, bc3, bc4, ca1, ca2, ca3, ca4]
  -- the three corner triangles list their edges in the parent's order; the inner one lists them as ca, ab, bc
  case inr.inr.inr =>
    rw [len2_symm a c, len2_symm b a, len2_symm c b, max_comm (len2 c a), max_assoc, max_comm (len2 c a), ← max_assoc]

theorem mapM_some_of_forall {α β : Type} (f : α → Option β) : ∀ l : List α, (∀ x ∈ l, ∃ y, f x = some y) →
    ∃ ys, l.mapM f = some ys
  | [], _ => ⟨[], rfl⟩
  | x :: xs, h => by
    obtain ⟨y, hy⟩ := h x List.mem_cons_self
    obtain ⟨ys, hys⟩ := mapM_some_of_forall f xs (fun z hz => h z (List.mem_cons_of_mem _ hz))
    exact ⟨y :: ys, by simp [List.mapM_cons, hy, hys]⟩

theorem toSize_succeeds (m2 : F) : ∀ (fuel : Nat) (t : Tri F), maxEdge2 t ≤ m2 * 4 ^ fuel →
    ∃ ts, toSize m2 fuel t = some ts
  | 0, t, h => by
    have : small m2 t := by unfold small; simpa using h
    exact ⟨[t], by simp [toSize, this]⟩
  | fuel + 1, t, h => by
    by_cases hs : small m2 t
    · exact ⟨[t], by simp [toSize, hs]⟩
    · obtain ⟨a, b, c⟩ := t
      have hc : ∀ ch ∈ children a b c, ∃ ts, toSize m2 fuel ch = some ts := by
        intro ch hch
        apply toSize_succeeds m2 fuel ch
        have := child_maxEdge2 a b c ch hch
        rw [pow_succ, ← mul_assoc] at h
        linarith
      obtain ⟨ys, hys⟩ := mapM_some_of_forall (toSize m2 fuel) _ hc
      exact ⟨ys.flatten, by simp [toSize, hs, hys]⟩

theorem mem_of_mapM {α β : Type} (f : α → Option β) : ∀ (l : List α) (ys : List β), l.mapM f = some ys →
    ∀ y ∈ ys, ∃ x ∈ l, f x = some y
  | [], ys, h, y, hy => by simp at h; subst h; simp at hy
  | x :: xs, ys, h, y, hy => by
    simp only [List.mapM_cons, Option.bind_eq_bind, Option.bind_eq_some_iff, Option.pure_def, Option.some.injEq] at h
    obtain ⟨v, hx, vs, hxs, rfl⟩ := h
    rcases List.mem_cons.mp hy with rfl | hy
    · exact ⟨x, List.mem_cons_self, hx⟩
    · obtain ⟨x', hx', hfx⟩ := mem_of_mapM f xs vs hxs y hy
      exact ⟨x', List.mem_cons_of_mem _ hx', hfx⟩

theorem toSize_small (m2 : F) : ∀ (fuel : Nat) (t : Tri F) (ts : List (Tri F)), toSize m2 fuel t = some ts →
    ∀ t' ∈ ts, small m2 t'
  | 0, t, ts, h, t', ht' => by
    unfold toSize at h
    split at h
    · next hs => cases h; exact List.mem_singleton.mp ht' ▸ hs
    · cases h
  | fuel + 1, t, ts, h, t', ht' => by
    unfold toSize at h
    split at h
    · next hs => cases h; exact List.mem_singleton.mp ht' ▸ hs
    · obtain ⟨ys, hm, rfl⟩ := Option.map_eq_some_iff.mp h
      obtain ⟨l, hl, htl⟩ := List.mem_flatten.mp ht'
      obtain ⟨ch, _, hch⟩ := mem_of_mapM _ _ _ hm l hl
      exact toSize_small m2 fuel ch l hch t' htl

end TV.ToSize
