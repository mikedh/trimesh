/-
Helper lemmas for C12 (Props/C12.lean): the normal of a triangle and non-degeneracy (`triNormal`, `NonDeg`);
fold/list facts about `rayHits`, `firstHit`, `closestOnMesh`; Cramer's rule / plane facts for `rayTriangle`; and the
reduction of Ericson's closest-point cascade to its seven regions on five scalars (Gram entries `A B C` and the
projections `d1 d2`), on which membership and optimality are proved.
-/
import TrimeshVerif.Proofs.Vec3
import Mathlib.Algebra.Order.Field.Rat
import Mathlib.Algebra.Order.Field.Basic
import Mathlib.Tactic.Ring
import Mathlib.Tactic.Linarith
import Mathlib.Tactic.LinearCombination
import Mathlib.Tactic.NormNum
namespace TV.Query

/-! ### the normal of a triangle, non-degeneracy

The model and `C12_hit_sound`, `C12_hit_complete` spell the normal out as `cross (sub t.2.1 t.1) (sub t.2.2 t.1)`; the
lemmas here and the other statements say `triNormal t` and `NonDeg t`, and `triNormal_def`, `nonDeg_def` are the way
between the two. -/

/-- the normal `ab × ac` of a triangle, not normalised -/
def triNormal (t : Tri) : P := cross (sub t.2.1 t.1) (sub t.2.2 t.1)

theorem triNormal_def (t : Tri) : triNormal t = cross (sub t.2.1 t.1) (sub t.2.2 t.1) := rfl

/-- the corners are not collinear: the normal is not zero -/
def NonDeg (t : Tri) : Prop :=
  dot (cross (sub t.2.1 t.1) (sub t.2.2 t.1)) (cross (sub t.2.1 t.1) (sub t.2.2 t.1)) ≠ 0

theorem nonDeg_def (t : Tri) : NonDeg t ↔
    dot (cross (sub t.2.1 t.1) (sub t.2.2 t.1)) (cross (sub t.2.1 t.1) (sub t.2.2 t.1)) ≠ 0 := Iff.rfl

/-! ### list / fold lemmas -/

/-- the step of the folds in `firstHit` and `closestOnMesh`: keep the strictly smaller -/
def minStep {β : Type} (k : β → Rat) (best : Option β) (h : β) : Option β :=
  match best with
  | none => some h
  | some b => if k h < k b then some h else some b

theorem foldl_minStep_some {β : Type} (k : β → Rat) (l : List β) (b : β) :
    l.foldl (minStep k) (some b) = some (l.foldl (minOn k) b) := by
  induction l generalizing b with
  | nil => rfl
  | cons x xs ih =>
    rw [List.foldl_cons, List.foldl_cons, ← ih]
    congr 1
    unfold minStep minOn
    simp only [← not_lt, ite_not, apply_ite some]

/-- `List.minOn?` keeps the earlier of two equal minima, as the strict `<` of `minStep` does -/
theorem foldl_minStep_none {β : Type} (k : β → Rat) (l : List β) : l.foldl (minStep k) none = l.minOn? k := by
  cases l with
  | nil => rfl
  | cons x xs => exact foldl_minStep_some k xs x

theorem le_of_minOn?_eq_some {β : Type} {k : β → Rat} {l : List β} {r : β} (h : l.minOn? k = some r) :
    ∀ b ∈ l, k r ≤ k b :=
  fun _ hb => List.minOn_eq_of_minOn?_eq_some h ▸ List.apply_minOn_le_of_mem hb

theorem mem_rayHits_iff (o d : P) (ts : List Tri) (i : Nat) (s : Rat) :
    (i, s) ∈ rayHits o d ts ↔ ∃ t u v, ts[i]? = some t ∧ rayTriangle o d t = some (s, u, v) := by
  unfold rayHits
  simp only [List.mem_filterMap, Option.map_eq_some_iff, Prod.mk.injEq]
  constructor
  · rintro ⟨⟨t, j⟩, hmem, ⟨s', u, v⟩, hr, rfl, rfl⟩
    exact ⟨t, u, v, List.mem_zipIdx_iff_getElem?.1 hmem, hr⟩
  · rintro ⟨t, u, v, hget, hr⟩
    exact ⟨(t, i), List.mem_zipIdx_iff_getElem?.2 hget, (s, u, v), hr, rfl, rfl⟩

theorem firstHit_eq_minOn? (o d : P) (ts : List Tri) : firstHit o d ts = (rayHits o d ts).minOn? (·.2) := by
  rw [← foldl_minStep_none]
  unfold firstHit
  congr 1
  funext best h
  cases best <;> rfl

theorem closestOnMesh_eq_minOn? (p : P) (ts : List Tri) : closestOnMesh p ts =
    (ts.zipIdx.map fun ti => (ti.2, closestPointTri p ti.1, dist2 p (closestPointTri p ti.1))).minOn? (·.2.2) := by
  rw [← foldl_minStep_none, List.foldl_map]
  unfold closestOnMesh
  congr 1
  funext best ti
  cases best <;> rfl

/-! ### Cramer's rule in the plane of two vectors -/

/-- Cramer's rule in the plane spanned by `x`, `y`: a vector orthogonal to `x × y` is recovered -/
theorem cramer_vec (x y w : P) (u v : Rat)
    (hg : dot x x * dot y y - dot x y * dot x y ≠ 0)
    (hu : u * (dot x x * dot y y - dot x y * dot x y) = dot y y * dot x w - dot x y * dot y w)
    (hv : v * (dot x x * dot y y - dot x y * dot x y) = dot x x * dot y w - dot x y * dot x w)
    (hpl : dot (cross x y) w = 0) : w = add (smul u x) (smul v y) := by
  obtain ⟨x1, x2, x3⟩ := x
  obtain ⟨y1, y2, y3⟩ := y
  obtain ⟨w1, w2, w3⟩ := w
  simp only [dot, cross, add, smul, Prod.mk.injEq] at *
  refine ⟨mul_right_cancel₀ hg ?_, mul_right_cancel₀ hg ?_, mul_right_cancel₀ hg ?_⟩
  · linear_combination -x1 * hu - y1 * hv + (x2 * y3 - x3 * y2) * hpl
  · linear_combination -x2 * hu - y2 * hv + (x3 * y1 - x1 * y3) * hpl
  · linear_combination -x3 * hu - y3 * hv + (x1 * y2 - x2 * y1) * hpl

theorem cramer_comb (x y : P) (u v : Rat) :
    dot y y * dot x (add (smul u x) (smul v y)) - dot x y * dot y (add (smul u x) (smul v y))
        = u * (dot x x * dot y y - dot x y * dot x y) ∧
    dot x x * dot y (add (smul u x) (smul v y)) - dot x y * dot x (add (smul u x) (smul v y))
        = v * (dot x x * dot y y - dot x y * dot x y) := by
  simp only [dot_add_right, dot_smul_right, dot_comm y x]
  constructor <;> ring

theorem dot_cross_comb (x y : P) (u v : Rat) : dot (cross x y) (add (smul u x) (smul v y)) = 0 := by
  obtain ⟨x1, x2, x3⟩ := x
  obtain ⟨y1, y2, y3⟩ := y
  simp only [dot, add, smul, cross]
  ring

/-! ### Cramer barycentric coordinates -/

theorem baryCramer_eq_some_iff (t : Tri) (p : P) (u v : Rat) : baryCramer t p = some (u, v) ↔
    let x := sub t.2.1 t.1; let y := sub t.2.2 t.1; let w := sub p t.1
    let den := dot x x * dot y y - dot x y * dot x y
    den ≠ 0 ∧ (dot y y * dot x w - dot x y * dot y w) / den = u ∧
      (dot x x * dot y w - dot x y * dot x w) / den = v := by
  unfold baryCramer
  dsimp only
  split <;> simp [*]

theorem baryCramer_plane (t : Tri) (p : P) (u v : Rat) (h : baryCramer t p = some (u, v))
    (hpl : dot (triNormal t) (sub p t.1) = 0) : p = fromBary t (u, v) := by
  obtain ⟨hg, rfl, rfl⟩ := (baryCramer_eq_some_iff t p u v).1 h
  rw [triNormal_def] at hpl
  exact eq_add_of_sub_eq' (cramer_vec _ _ _ _ _ hg (div_mul_cancel₀ _ hg) (div_mul_cancel₀ _ hg) hpl)

theorem baryCramer_fromBary (t : Tri) (u v : Rat) (hnd : NonDeg t) :
    baryCramer t (fromBary t (u, v)) = some (u, v) := by
  have hg := (nonDeg_def t).1 hnd
  rw [← lagrange] at hg
  obtain ⟨h1, h2⟩ := cramer_comb (sub t.2.1 t.1) (sub t.2.2 t.1) u v
  rw [baryCramer_eq_some_iff]
  unfold fromBary
  dsimp only
  rw [add_sub_cancel_left, h1, h2]
  exact ⟨hg, mul_div_cancel_right₀ _ hg, mul_div_cancel_right₀ _ hg⟩

/-! ### ray / triangle -/

/-- the parameter at which a ray not parallel to a plane (normal `n`, through `a`) meets it -/
theorem ray_plane_iff (n o d a : P) (s : Rat) (hnd : dot n d ≠ 0) :
    dot n (sub (add o (smul s d)) a) = 0 ↔ dot n (sub a o) / dot n d = s := by
  rw [div_eq_iff hnd, dot_sub_right, dot_sub_right, dot_add_right, dot_smul_right, sub_eq_zero, sub_eq_iff_eq_add,
    add_comm, eq_comm]

theorem fromBary_plane (t : Tri) (vw : Rat × Rat) : dot (triNormal t) (sub (fromBary t vw) t.1) = 0 := by
  unfold fromBary
  rw [add_sub_cancel_left]
  exact dot_cross_comb _ _ _ _

/-- Cauchy-Schwarz at a null vector, from Lagrange's identity -/
theorem dot_eq_zero_of_dot_self_eq_zero (n d : P) (h : dot n n = 0) : dot n d = 0 := by
  have hl := lagrange n d
  have hc := dot_self_nonneg (cross n d)
  rw [h, zero_mul] at hl
  exact mul_self_eq_zero.1 (le_antisymm (by linarith) (mul_self_nonneg _))

/-- **what `rayTriangle` reports**: exactly the points `o + s d`, `s > 0`, of a ray not parallel to the plane that
    lie in the triangle, with their weights -/
theorem rayTriangle_eq_some_iff (o d : P) (t : Tri) (s u v : Rat) :
    rayTriangle o d t = some (s, u, v) ↔ dot (triNormal t) d ≠ 0 ∧ 0 < s ∧ 0 ≤ u ∧ 0 ≤ v ∧ u + v ≤ 1 ∧
      add o (smul s d) = fromBary t (u, v) := by
  unfold rayTriangle
  dsimp only
  -- `rayTriangle` spells the normal out
  rw [← triNormal_def t]
  simp only [Option.ite_none_left_eq_some, not_le]
  refine and_congr_right fun hnd => ⟨fun ⟨hs, h⟩ => ?_, fun ⟨hs, hu, hv, huv, hp⟩ => ?_⟩
  · split at h
    · cases h
    · rename_i u' v' hb
      split_ifs at h with huv
      cases h
      exact ⟨hs, huv.1, huv.2.1, huv.2.2, baryCramer_plane t _ u v hb ((ray_plane_iff _ o d _ _ hnd).2 rfl)⟩
  · -- the point lies in the plane, so `s` is the parameter the model computes
    obtain rfl := (ray_plane_iff _ o d t.1 s hnd).1 (hp ▸ fromBary_plane t (u, v))
    rw [hp, baryCramer_fromBary t u v ((nonDeg_def t).2 fun h0 => hnd (dot_eq_zero_of_dot_self_eq_zero _ _ h0))]
    exact ⟨hs, if_pos ⟨hu, hv, huv⟩⟩

/-! ### Ericson closest point on five scalars: `A = |ab|²`, `B = ab·ac`, `C = |ac|²`, `d1 = ab·ap`, `d2 = ac·ap`

The code's other four dot products `d3 … d6` are `d1 - A`, `d2 - B`, `d1 - B`, `d2 - C`; `A d2 - B d1`, `C d1 - B d2`
are the numerators `vc`, `vb` of the weights of `c`, `b`. -/

/-- when no vertex / edge test fires, the weight of `c` is positive: were it not, `p` would lie beyond edge
    `ab`, and according to where `d1` falls one of the tests of `a`, `ab`, `b`, or then of `ac`, `c`, `bc`, fires -/
theorem interior_key (A B C d1 d2 : Rat) (hA : 0 < A) (hG : 0 < A * C - B * B)
    (na : ¬(d1 ≤ 0 ∧ d2 ≤ 0)) (nb : ¬(0 ≤ d1 - A ∧ d2 - B ≤ d1 - A))
    (nab : ¬(A * d2 - B * d1 ≤ 0 ∧ 0 ≤ d1 ∧ d1 - A ≤ 0)) (nc : ¬(0 ≤ d2 - C ∧ d1 - B ≤ d2 - C))
    (nac : ¬(C * d1 - B * d2 ≤ 0 ∧ 0 ≤ d2 ∧ d2 - C ≤ 0))
    (nbc : ¬((d1 - A) * (d2 - C) - (d1 - B) * (d2 - B) ≤ 0 ∧ 0 ≤ d2 - B - (d1 - A) ∧
      0 ≤ d1 - B - (d2 - C))) :
    0 < A * d2 - B * d1 := by
  by_contra hvc
  have hvc : A * d2 - B * d1 ≤ 0 := not_lt.1 hvc
  rcases lt_or_ge d1 0 with hd1 | hd1
  · have hd2 : 0 < d2 := not_le.1 fun h => na ⟨hd1.le, h⟩
    have hB : B < 0 := not_le.1 fun hB => by
      linarith [mul_pos hA hd2, mul_nonneg hB (neg_pos.2 hd1).le]
    have hvb : C * d1 - B * d2 ≤ 0 := not_lt.1 fun hvb => by
      linarith [mul_pos hA hvb, mul_nonneg (neg_pos.2 hB).le (neg_nonneg.2 hvc), mul_pos hG (neg_pos.2 hd1)]
    have hd6 : C < d2 := not_le.1 fun h => nac ⟨hvb, hd2.le, by linarith⟩
    have h56 : d2 - C < d1 - B := not_le.1 fun h => nc ⟨by linarith, h⟩
    linarith [mul_pos hA (sub_pos.2 hd6), mul_pos (neg_pos.2 hB) (sub_pos.2 (by linarith : B < d1))]
  · have hd3 : A < d1 := not_le.1 fun h => nab ⟨hvc, hd1, by linarith⟩
    have hd4 : d1 - A < d2 - B := not_le.1 fun h => nb ⟨by linarith, h⟩
    have hBA : A < B := not_le.1 fun hBA => by
      linarith [mul_pos hA (sub_pos.2 hd4), mul_nonneg (sub_nonneg.2 hBA) (sub_pos.2 hd3).le]
    have hva : (d1 - A) * (d2 - C) - (d1 - B) * (d2 - B) ≤ 0 := not_lt.1 fun hva => by
      linarith [mul_pos hA hva, mul_nonneg (sub_pos.2 hBA).le (neg_nonneg.2 hvc), mul_pos hG (sub_pos.2 hd3)]
    have h56 : d1 - B < d2 - C := not_le.1 fun h => nbc ⟨hva, by linarith, by linarith⟩
    have hd6 : d2 < C := not_le.1 fun h => nc ⟨by linarith, h56.le⟩
    linarith [mul_pos hA (sub_pos.2 h56), mul_pos (sub_pos.2 hBA) (sub_pos.2 (by linarith : d1 < B))]

/-- `|bc|² > 0`: `A · |bc|² = (A - B)² + (A C - B²)` -/
theorem gram_bc_pos (A B C : Rat) (hA : 0 < A) (hG : 0 < A * C - B * B) : 0 < A - 2 * B + C :=
  (mul_pos_iff_of_pos_left hA).1 (by linarith [sq_nonneg (A - B)])

/-- squared distance to `a + s·ab + u·ac`, up to the constant `|ap|²` -/
def fq (A B C d1 d2 s u : Rat) : Rat := A * s * s + 2 * B * s * u + C * u * u - 2 * d1 * s - 2 * d2 * u

theorem quad_nonneg (A B C a b : Rat) (hA : 0 < A) (hG : 0 < A * C - B * B) :
    0 ≤ A * a * a + 2 * B * a * b + C * b * b := by
  have h : 0 ≤ A * (A * a * a + 2 * B * a * b + C * b * b) := by
    linarith [sq_nonneg (A * a + B * b), mul_nonneg (le_of_lt hG) (sq_nonneg b)]
  exact nonneg_of_mul_nonneg_right h hA

/-- first-order optimality condition for the convex quadratic `fq` -/
theorem fq_le_of_grad (A B C d1 d2 v w s u : Rat) (hA : 0 < A) (hG : 0 < A * C - B * B)
    (hgrad : 0 ≤ (A * v + B * w - d1) * (s - v) + (B * v + C * w - d2) * (u - w)) :
    fq A B C d1 d2 v w ≤ fq A B C d1 d2 s u := by
  have hq := quad_nonneg A B C (s - v) (u - w) hA hG
  unfold fq
  linarith [hq, hgrad]

/-! ### reduction of `closestBary` / `dist2` to the five scalars -/

theorem dot_sub_vertex (x p b a : P) : dot x (sub p b) = dot x (sub p a) - dot x (sub b a) := by
  simp only [dot_sub_right]
  ring

theorem gram_pos (x y : P) (h : dot (cross x y) (cross x y) ≠ 0) :
    0 < dot x x ∧ 0 < dot y y ∧ 0 < dot x x * dot y y - dot x y * dot x y := by
  have hG : 0 < dot x x * dot y y - dot x y * dot x y := by
    rw [lagrange]
    exact lt_of_le_of_ne (dot_self_nonneg _) (Ne.symm h)
  have hAC : 0 < dot x x * dot y y := by linarith [mul_self_nonneg (dot x y)]
  rcases mul_pos_iff.1 hAC with ⟨h1, h2⟩ | ⟨h1, h2⟩
  · exact ⟨h1, h2, hG⟩
  · exact absurd h1 (not_lt.2 (dot_self_nonneg x))

theorem dist2_comb (x y w : P) (s u : Rat) :
    dot (sub w (add (smul s x) (smul u y))) (sub w (add (smul s x) (smul u y)))
      = dot w w + fq (dot x x) (dot x y) (dot y y) (dot x w) (dot y w) s u := by
  simp only [dot_sub_right, dot_add_right, dot_smul_right, dot_sub_left, dot_add_left, dot_smul_left, fq,
    dot_comm w, dot_comm y x]
  ring

theorem dist2_fromBary (p : P) (t : Tri) (vw : Rat × Rat) :
    dist2 p (fromBary t vw) = dot (sub p t.1) (sub p t.1) +
      fq (dot (sub t.2.1 t.1) (sub t.2.1 t.1)) (dot (sub t.2.1 t.1) (sub t.2.2 t.1))
        (dot (sub t.2.2 t.1) (sub t.2.2 t.1)) (dot (sub t.2.1 t.1) (sub p t.1))
        (dot (sub t.2.2 t.1) (sub p t.1)) vw.1 vw.2 := by
  unfold dist2 fromBary
  rw [sub_add_eq_sub_sub, dist2_comb]

/-- **Ericson's cascade returns a point of the triangle, and no point of the triangle is nearer.**  After the
    reduction to the five scalars the cascade is taken branch by branch in the order of the code (`a`, `b`, `ab`,
    `c`, `ac`, `bc`, interior), each branch with its own test and the tests that failed before it; each yields the
    bounds on its weights and the first-order condition of `fq_le_of_grad` -/
theorem closestBary_spec (p : P) (t : Tri) (hnd : NonDeg t) :
    (0 ≤ (closestBary p t).1 ∧ 0 ≤ (closestBary p t).2 ∧ (closestBary p t).1 + (closestBary p t).2 ≤ 1) ∧
    ∀ s u, 0 ≤ s → 0 ≤ u → s + u ≤ 1 → dist2 p (closestPointTri p t) ≤ dist2 p (fromBary t (s, u)) := by
  obtain ⟨hA, hC, hG⟩ := gram_pos _ _ ((nonDeg_def t).1 hnd)
  unfold closestPointTri
  simp only [dist2_fromBary]
  -- for the second half the first-order condition at every `(s, u)` of the triangle is enough
  refine And.imp_right (fun (h : ∀ s u : Rat, 0 ≤ s → 0 ≤ u → s + u ≤ 1 → _) s u hs hu hsu =>
    add_le_add (le_refl _) (fq_le_of_grad _ _ _ _ _ _ _ _ _ hA hG (h s u hs hu hsu))) ?_
  generalize hr : closestBary p t = r
  unfold closestBary at hr
  dsimp only at hr ⊢
  rw [dot_sub_vertex (sub t.2.1 t.1) p t.2.1 t.1, dot_sub_vertex (sub t.2.2 t.1) p t.2.1 t.1,
    dot_sub_vertex (sub t.2.1 t.1) p t.2.2 t.1, dot_sub_vertex (sub t.2.2 t.1) p t.2.2 t.1,
    dot_comm (sub t.2.2 t.1) (sub t.2.1 t.1)] at hr
  generalize dot (sub t.2.1 t.1) (sub t.2.1 t.1) = A at hr hA hG ⊢
  generalize dot (sub t.2.1 t.1) (sub t.2.2 t.1) = B at hr hG ⊢
  generalize dot (sub t.2.2 t.1) (sub t.2.2 t.1) = C at hr hC hG ⊢
  generalize dot (sub t.2.1 t.1) (sub p t.1) = d1 at hr ⊢
  generalize dot (sub t.2.2 t.1) (sub p t.1) = d2 at hr ⊢
  have hE := gram_bc_pos A B C hA hG
  -- the code's denominators `d1 - d3`, `d2 - d6`, `(d4 - d3) + (d5 - d6)`, `va + vb + vc` and its `vb`, `vc`
  rw [show d1 - (d1 - A) = A by ring, show d2 - (d2 - C) = C by ring,
    show d2 - B - (d1 - A) + (d1 - B - (d2 - C)) = A - 2 * B + C by ring,
    show (d1 - A) * (d2 - C) - (d1 - B) * (d2 - B) + ((d1 - B) * d2 - d1 * (d2 - C)) +
      (d1 * (d2 - B) - (d1 - A) * d2) = A * C - B * B by ring,
    show (d1 - B) * d2 - d1 * (d2 - C) = C * d1 - B * d2 by ring,
    show d1 * (d2 - B) - (d1 - A) * d2 = A * d2 - B * d1 by ring] at hr
  simp only [ite_eq_iff] at hr
  rcases hr with ⟨ha, rfl⟩ | ⟨ha, ⟨hb, rfl⟩ | ⟨hb, ⟨hab, rfl⟩ | ⟨hab, ⟨hc, rfl⟩ | ⟨hc, ⟨hac, rfl⟩ |
    ⟨hac, ⟨hbc, rfl⟩ | ⟨hbc, rfl⟩⟩⟩⟩⟩⟩ <;> dsimp only
  · exact ⟨by norm_num, fun s u hs hu hsu => by linarith [mul_nonneg hs (neg_nonneg.2 ha.1), mul_nonneg hu (neg_nonneg.2 ha.2)]⟩
  · exact ⟨by norm_num, fun s u hs hu hsu => by linarith [mul_nonneg hb.1 (sub_nonneg.2 hsu), mul_nonneg (sub_nonneg.2 hb.2) hu]⟩
  · refine ⟨⟨div_nonneg hab.2.1 hA.le, le_refl _, by rw [add_zero, div_le_one hA]; linarith [hab.2.2]⟩, fun s u hs hu hsu => ?_⟩
    have hv : A * (d1 / A) = d1 := mul_div_cancel₀ _ hA.ne'
    generalize d1 / A = v at hv
    have hg : 0 ≤ A * (B * v - d2) := by linarith [congrArg (B * ·) hv, hab.1]
    linarith [mul_nonneg (nonneg_of_mul_nonneg_right hg hA) hu, congrArg (· * (s - v)) hv]
  · exact ⟨by norm_num, fun s u hs hu hsu => by linarith [mul_nonneg hc.1 (sub_nonneg.2 hsu), mul_nonneg (sub_nonneg.2 hc.2) hs]⟩
  · refine ⟨⟨le_refl _, div_nonneg hac.2.1 hC.le, by rw [zero_add, div_le_one hC]; linarith [hac.2.2]⟩, fun s u hs hu hsu => ?_⟩
    have hv : C * (d2 / C) = d2 := mul_div_cancel₀ _ hC.ne'
    generalize d2 / C = v at hv
    have hg : 0 ≤ C * (B * v - d1) := by linarith [congrArg (B * ·) hv, hac.1]
    linarith [mul_nonneg (nonneg_of_mul_nonneg_right hg hC) hs, congrArg (· * (u - v)) hv]
  · have hw : (A - 2 * B + C) * ((d2 - B - (d1 - A)) / (A - 2 * B + C)) = d2 - B - (d1 - A) :=
      mul_div_cancel₀ _ hE.ne'
    have hw0 := div_nonneg hbc.2.1 hE.le
    generalize (d2 - B - (d1 - A)) / (A - 2 * B + C) = w at hw hw0
    have hw1 : w ≤ 1 := le_of_mul_le_mul_left (by linarith [hbc.2.2]) hE
    refine ⟨⟨by linarith, hw0, by linarith⟩, fun s u hs hu hsu => ?_⟩
    -- both components of the gradient are `va / |bc|²`
    have hg : (A - 2 * B + C) * (A * (1 - w) + B * w - d1) ≤ 0 := by linarith [congrArg ((B - A) * ·) hw, hbc.1]
    have hg1 : A * (1 - w) + B * w - d1 ≤ 0 := le_of_not_gt fun h => absurd (mul_pos hE h) (not_lt.2 hg)
    linarith [mul_nonneg (neg_nonneg.2 hg1) (sub_nonneg.2 hsu), congrArg (· * (u - w)) hw]
  · -- the three weights are positive: `interior_key` read from `a`, with `b`, `c` exchanged, and from `b`
    have hvc := interior_key A B C d1 d2 hA hG ha hb hab hc hac hbc
    have hvb := interior_key C B A d2 d1 hC (by linarith) (fun h => ha ⟨h.2, h.1⟩) hc hac hb hab
      (fun h => hbc ⟨by linarith [h.1], h.2.2, h.2.1⟩)
    have hva := interior_key (A - 2 * B + C) (A - B) A (d2 - B - (d1 - A)) (A - d1) hE (by linarith)
      (fun h => hb ⟨by linarith [h.2], by linarith [h.1]⟩)
      (fun h => hc ⟨by linarith [h.1, h.2], by linarith [h.1]⟩)
      (fun h => hbc ⟨by linarith [h.1], by linarith [h.2.1], by linarith [h.2.2]⟩)
      (fun h => ha ⟨by linarith [h.1], by linarith [h.1, h.2]⟩)
      (fun h => hab ⟨by linarith [h.1], by linarith [h.2.2], by linarith [h.2.1]⟩)
      (fun h => hac ⟨by linarith [h.1], by linarith [h.2.1, h.2.2], by linarith [h.2.1, h.2.2]⟩)
    refine ⟨⟨div_nonneg hvb.le hG.le, div_nonneg hvc.le hG.le, ?_⟩, fun s u _ _ _ => ?_⟩
    · rw [← add_div, div_le_one hG]
      linarith
    -- and the gradient vanishes
    have hv : (A * C - B * B) * ((C * d1 - B * d2) / (A * C - B * B)) = C * d1 - B * d2 :=
      mul_div_cancel₀ _ hG.ne'
    have hw : (A * C - B * B) * ((A * d2 - B * d1) / (A * C - B * B)) = A * d2 - B * d1 :=
      mul_div_cancel₀ _ hG.ne'
    generalize (C * d1 - B * d2) / (A * C - B * B) = v at hv
    generalize (A * d2 - B * d1) / (A * C - B * B) = w at hw
    have g1 : A * v + B * w - d1 = 0 := mul_left_cancel₀ hG.ne' (by linear_combination A * hv + B * hw)
    have g2 : B * v + C * w - d2 = 0 := mul_left_cancel₀ hG.ne' (by linear_combination B * hv + C * hw)
    rw [g1, g2]
    simp

theorem dist2_closestPointTri_le_corner (p : P) (t : Tri) (hnd : NonDeg t) :
    dist2 p (closestPointTri p t) ≤ dist2 p t.1 ∧ dist2 p (closestPointTri p t) ≤ dist2 p t.2.1 ∧
    dist2 p (closestPointTri p t) ≤ dist2 p t.2.2 := by
  -- the corners are the points of weights `(0, 0)`, `(1, 0)`, `(0, 1)`
  have h := (closestBary_spec p t hnd).2
  have e0 : fromBary t (0, 0) = t.1 := by simp [fromBary, add, smul]
  have e1 : fromBary t (1, 0) = t.2.1 := by simp [fromBary, add, smul, sub]
  have e2 : fromBary t (0, 1) = t.2.2 := by simp [fromBary, add, smul, sub]
  exact ⟨e0 ▸ h 0 0 (le_refl _) (le_refl _) (by norm_num), e1 ▸ h 1 0 (by norm_num) (le_refl _) (by norm_num),
    e2 ▸ h 0 1 (le_refl _) (by norm_num) (by norm_num)⟩

end TV.Query
