/-
Reference forms for C19 and their laws: the Rodrigues matrix `rotM` (a proper rotation that fixes its axis; the
elementary rotations `Rx`, `Ry`, `Rz` are its instances about the coordinate axes), the quaternion matrix `qM`
(a proper rotation, multiplicative), unit quaternions `UQ` as a subtype, for which multiplicativity needs no
hypothesis, and the link between the two (`qM_axis_angle`).

The `linear_combination` certificates here are about these hand-written definitions, so they do not depend on the shape
of the generated code: `Props/C19.lean` connects the traces to them by hypothesis-free `ring` identities.  All
certificates have integer coefficients (valid in every characteristic).
-/
import TrimeshVerif.Proofs.Mat3
namespace TV.Mat3
open TV.Affine (M3.smul M3.smul_smul M3.smul_mul M3.mul_smul M3.smul_cancel)

variable {K : Type} [Field K]

/-! ### axis-angle (Rodrigues form) -/

/-- `c·I + s·[u]ₓ + (1-c)·u uᵀ` -/
def rotM (c s u1 u2 u3 : K) : M3 K :=
  ⟨c + (1 - c) * u1 ^ 2, (1 - c) * u1 * u2 - s * u3, (1 - c) * u1 * u3 + s * u2,
   (1 - c) * u1 * u2 + s * u3, c + (1 - c) * u2 ^ 2, (1 - c) * u2 * u3 - s * u1,
   (1 - c) * u1 * u3 - s * u2, (1 - c) * u2 * u3 + s * u1, c + (1 - c) * u3 ^ 2⟩

theorem M3.transpose_cyc (a : M3 K) : a.cyc.transpose = a.transpose.cyc := rfl

/-- a symmetric matrix is `1` if its entries (0,0) and (0,1) are those of `1` under all three cyclic relabellings -/
theorem M3.eq_one_of_cyc {x : M3 K} (hs : x.transpose = x) (h0 : x.m00 = 1 ∧ x.m01 = 0)
    (h1 : x.cyc.m00 = 1 ∧ x.cyc.m01 = 0) (h2 : x.cyc.cyc.m00 = 1 ∧ x.cyc.cyc.m01 = 0) : x = 1 :=
  M3.ext_of_symm hs M3.transpose_one h0.1 h0.2 ((congrArg M3.m20 hs).trans h2.2) h1.1 h1.2 h2.1

theorem rotM_cyc (c s u1 u2 u3 : K) : (rotM c s u1 u2 u3).cyc = rotM c s u2 u3 u1 := by
  apply M3.ext' <;> simp only [rotM, M3.cyc] <;> ring

theorem rotM_isRotation (c s u1 u2 u3 : K) (hcs : c ^ 2 + s ^ 2 = 1)
    (hu : u1 ^ 2 + u2 ^ 2 + u3 ^ 2 = 1) : (rotM c s u1 u2 u3).IsRotation := by
  -- two entries of `R Rᵀ` for every axis; the others are these at the axis relabelled
  have key : ∀ u1 u2 u3 : K, u1 ^ 2 + u2 ^ 2 + u3 ^ 2 = 1 →
      (rotM c s u1 u2 u3 * (rotM c s u1 u2 u3).transpose).m00 = 1 ∧
      (rotM c s u1 u2 u3 * (rotM c s u1 u2 u3).transpose).m01 = 0 := by
    intro u1 u2 u3 hu
    simp only [rotM, M3.mul_def, M3.mul, M3.transpose]
    constructor
    · linear_combination (u1^4 + u1^2*u2^2 + u1^2*u3^2 - 2*u1^2 + 1) * hcs + (-2*c*u1^2 - s^2*u1^2 + s^2 + 2*u1^2) * hu
    · linear_combination (u1^3*u2 + u1*u2^3 + u1*u2*u3^2 - 2*u1*u2) * hcs + (-2*c*u1*u2 - s^2*u1*u2 + 2*u1*u2) * hu
  refine ⟨M3.eq_one_of_cyc (M3.mul_transpose_self_symm _) (key u1 u2 u3 hu) ?_ ?_, ?_⟩
  · rw [M3.cyc_mul, ← M3.transpose_cyc, rotM_cyc]
    exact key u2 u3 u1 (by linear_combination hu)
  · rw [M3.cyc_mul, M3.cyc_mul, ← M3.transpose_cyc, ← M3.transpose_cyc, rotM_cyc, rotM_cyc]
    exact key u3 u1 u2 (by linear_combination hu)
  · simp only [rotM, M3.det]
    linear_combination (-c*u1^2 - c*u2^2 - c*u3^2 + c + u1^2 + u2^2 + u3^2) * hcs + (-c*s^2*u1^2 - c*s^2*u2^2 - c*s^2*u3^2 + c*s^2 - c + s^2*u1^2 + s^2*u2^2 + s^2*u3^2 + 1) * hu

theorem rotM_apply_axis (c s u1 u2 u3 : K) (hu : u1 ^ 2 + u2 ^ 2 + u3 ^ 2 = 1) :
    (rotM c s u1 u2 u3).apply (u1, u2, u3) = (u1, u2, u3) := by
  simp only [rotM, M3.apply, Prod.mk.injEq]
  refine ⟨?_, ?_, ?_⟩
  · linear_combination (-c*u1 + u1) * hu
  · linear_combination (-c*u2 + u2) * hu
  · linear_combination (-c*u3 + u3) * hu

/-! ### elementary rotations: the Rodrigues form about a coordinate axis -/

/-- right multiplication by an elementary rotation mixes two columns.  The product of three elementary rotations is
    computed with two of these rewrites, so the nine entries the per-convention theorems of Props/C19.lean compare by
    `ring` are small -/
theorem M3.mul_Rx (a : M3 K) (c s : K) : a * Rx c s =
    ⟨a.m00, a.m01 * c + a.m02 * s, a.m02 * c - a.m01 * s, a.m10, a.m11 * c + a.m12 * s, a.m12 * c - a.m11 * s,
     a.m20, a.m21 * c + a.m22 * s, a.m22 * c - a.m21 * s⟩ := by
  apply M3.ext' <;> simp only [Rx, M3.mul_def, M3.mul] <;> ring

-- `Ry`, `Rz` are `Rx` with the axes relabelled (`cyc_Ry`, `cyc_Rz`), and so are these products
theorem M3.mul_Ry (a : M3 K) (c s : K) : a * Ry c s =
    ⟨a.m00 * c - a.m02 * s, a.m01, a.m02 * c + a.m00 * s, a.m10 * c - a.m12 * s, a.m11, a.m12 * c + a.m10 * s,
     a.m20 * c - a.m22 * s, a.m21, a.m22 * c + a.m20 * s⟩ :=
  M3.cyc_injective (by rw [M3.cyc_mul, cyc_Ry, M3.mul_Rx]; rfl)

theorem M3.mul_Rz (a : M3 K) (c s : K) : a * Rz c s =
    ⟨a.m00 * c + a.m01 * s, a.m01 * c - a.m00 * s, a.m02, a.m10 * c + a.m11 * s, a.m11 * c - a.m10 * s, a.m12,
     a.m20 * c + a.m21 * s, a.m21 * c - a.m20 * s, a.m22⟩ :=
  M3.cyc_injective (by rw [M3.cyc_mul, cyc_Rz, M3.mul_Ry]; rfl)

theorem Rx_eq_rotM (c s : K) : Rx c s = rotM c s 1 0 0 := by
  apply M3.ext' <;> simp only [Rx, rotM] <;> ring

theorem Ry_eq_rotM (c s : K) : Ry c s = rotM c s 0 1 0 := by
  apply M3.ext' <;> simp only [Ry, rotM] <;> ring

theorem Rz_eq_rotM (c s : K) : Rz c s = rotM c s 0 0 1 := by
  apply M3.ext' <;> simp only [Rz, rotM] <;> ring

theorem Rx_isRotation (c s : K) (h : c ^ 2 + s ^ 2 = 1) : (Rx c s).IsRotation :=
  Rx_eq_rotM c s ▸ rotM_isRotation c s 1 0 0 h (by ring)

theorem Ry_isRotation (c s : K) (h : c ^ 2 + s ^ 2 = 1) : (Ry c s).IsRotation :=
  Ry_eq_rotM c s ▸ rotM_isRotation c s 0 1 0 h (by ring)

theorem Rz_isRotation (c s : K) (h : c ^ 2 + s ^ 2 = 1) : (Rz c s).IsRotation :=
  Rz_eq_rotM c s ▸ rotM_isRotation c s 0 0 1 h (by ring)

/-! ### quaternions -/

/-- matrix of the quaternion `(w, x, y, z)`; `t` is the squared normalisation factor `2 / |q|²` -/
def qM (t w x y z : K) : M3 K :=
  ⟨1 - t * (y ^ 2 + z ^ 2), t * (x * y - w * z), t * (x * z + w * y),
   t * (x * y + w * z), 1 - t * (x ^ 2 + z ^ 2), t * (y * z - w * x),
   t * (x * z - w * y), t * (y * z + w * x), 1 - t * (x ^ 2 + y ^ 2)⟩

theorem qM_isRotation (t w x y z : K) (ht : t * (w ^ 2 + x ^ 2 + y ^ 2 + z ^ 2) = 2) :
    (qM t w x y z).IsRotation := by
  constructor
  · refine M3.ext_of_symm (M3.mul_transpose_self_symm _) M3.transpose_one ?_ ?_ ?_ ?_ ?_ ?_ <;>
      simp only [qM, M3.mul_def, M3.mul, M3.one_def, M3.one, M3.transpose]
    · linear_combination (t*y^2 + t*z^2) * ht
    · linear_combination (-t*x*y) * ht
    · linear_combination (-t*x*z) * ht
    · linear_combination (t*x^2 + t*z^2) * ht
    · linear_combination (-t*y*z) * ht
    · linear_combination (t*x^2 + t*y^2) * ht
  · simp only [qM, M3.det]
    linear_combination (t*x^2 + t*y^2 + t*z^2) * ht

theorem qM_neg (t w x y z : K) : qM t (-w) (-x) (-y) (-z) = qM t w x y z := by
  apply M3.ext' <;> simp only [qM] <;> ring

theorem qM_cyc (t w x y z : K) : (qM t w x y z).cyc = qM t w y z x := by
  apply M3.ext' <;> simp only [qM, M3.cyc] <;> ring

theorem qM_axis_angle (ch sh u1 u2 u3 : K) (hcs : ch ^ 2 + sh ^ 2 = 1)
    (hu : u1 ^ 2 + u2 ^ 2 + u3 ^ 2 = 1) :
    qM 2 ch (u1 * sh) (u2 * sh) (u3 * sh) = rotM (ch ^ 2 - sh ^ 2) (2 * sh * ch) u1 u2 u3 := by
  apply M3.ext' <;> simp only [qM, rotM]
  · linear_combination (u1^2 - 1) * hcs + (-2*sh^2) * hu
  · linear_combination (u1*u2) * hcs
  · linear_combination (u1*u3) * hcs
  · linear_combination (u1*u2) * hcs
  · linear_combination (u2^2 - 1) * hcs + (-2*sh^2) * hu
  · linear_combination (u2*u3) * hcs
  · linear_combination (u1*u3) * hcs
  · linear_combination (u2*u3) * hcs
  · linear_combination (u3^2 - 1) * hcs + (-2*sh^2) * hu

structure Q (K : Type) where
  w : K
  x : K
  y : K
  z : K

/-- Hamilton product -/
def Q.mul (p q : Q K) : Q K :=
  ⟨p.w * q.w - p.x * q.x - p.y * q.y - p.z * q.z,
   p.w * q.x + p.x * q.w + p.y * q.z - p.z * q.y,
   p.w * q.y - p.x * q.z + p.y * q.w + p.z * q.x,
   p.w * q.z + p.x * q.y - p.y * q.x + p.z * q.w⟩

def Q.normSq (q : Q K) : K := q.w ^ 2 + q.x ^ 2 + q.y ^ 2 + q.z ^ 2

/-- rotation matrix of a *unit* quaternion -/
def Q.rot (q : Q K) : M3 K := qM 2 q.w q.x q.y q.z

theorem Q.mul_ex (q : Q K) (c s : K) : q.mul ⟨c, s, 0, 0⟩ =
    ⟨q.w * c - q.x * s, q.w * s + q.x * c, q.y * c + q.z * s, q.z * c - q.y * s⟩ := by
  simp only [Q.mul, Q.mk.injEq]; refine ⟨?_, ?_, ?_, ?_⟩ <;> ring

theorem Q.mul_ey (q : Q K) (c s : K) : q.mul ⟨c, 0, s, 0⟩ =
    ⟨q.w * c - q.y * s, q.x * c - q.z * s, q.w * s + q.y * c, q.z * c + q.x * s⟩ := by
  simp only [Q.mul, Q.mk.injEq]; refine ⟨?_, ?_, ?_, ?_⟩ <;> ring

theorem Q.mul_ez (q : Q K) (c s : K) : q.mul ⟨c, 0, 0, s⟩ =
    ⟨q.w * c - q.z * s, q.x * c + q.y * s, q.y * c - q.x * s, q.w * s + q.z * c⟩ := by
  simp only [Q.mul, Q.mk.injEq]; refine ⟨?_, ?_, ?_, ?_⟩ <;> ring

theorem Q.normSq_mul (p q : Q K) : (p.mul q).normSq = p.normSq * q.normSq := by
  simp only [Q.mul, Q.normSq]; ring

/-- `|q|²` times the rotation of `q`.  It is homogeneous of degree two in `q`, so it is multiplicative with no
    hypothesis on the norms: both multiplicativity theorems below are this one identity, rescaled -/
def Q.hom (q : Q K) : M3 K :=
  ⟨q.w ^ 2 + q.x ^ 2 - q.y ^ 2 - q.z ^ 2, 2 * (q.x * q.y - q.w * q.z), 2 * (q.x * q.z + q.w * q.y),
   2 * (q.x * q.y + q.w * q.z), q.w ^ 2 - q.x ^ 2 + q.y ^ 2 - q.z ^ 2, 2 * (q.y * q.z - q.w * q.x),
   2 * (q.x * q.z - q.w * q.y), 2 * (q.y * q.z + q.w * q.x), q.w ^ 2 - q.x ^ 2 - q.y ^ 2 + q.z ^ 2⟩

theorem Q.hom_mul (p q : Q K) : (p.mul q).hom = p.hom * q.hom := by
  obtain ⟨pw, px, py, pz⟩ := p
  obtain ⟨qw, qx, qy, qz⟩ := q
  apply M3.ext' <;> simp only [Q.hom, Q.mul, M3.mul_def, M3.mul] <;> ring

theorem Q.rot_eq_hom (q : Q K) (h : q.normSq = 1) : q.rot = q.hom := by
  simp only [Q.normSq] at h
  -- off the diagonal the two are the same term; the diagonal needs the norm
  apply M3.ext' <;> simp only [Q.rot, qM, Q.hom] <;> linear_combination (-1 : K) * h

/-- division-free multiplicativity (unit quaternions; holds in every characteristic) -/
theorem Q.rot_mul (p q : Q K) (hp : p.normSq = 1) (hq : q.normSq = 1) :
    (p.mul q).rot = p.rot * q.rot := by
  rw [Q.rot_eq_hom _ (by rw [Q.normSq_mul, hp, hq, mul_one]), Q.rot_eq_hom p hp, Q.rot_eq_hom q hq, Q.hom_mul]

/-- with `t |q|² = 2` the quaternion matrix is `t / 2` times the homogeneous form -/
theorem smul_qM (t : K) (q : Q K) (ht : t * q.normSq = 2) :
    M3.smul 2 (qM t q.w q.x q.y q.z) = M3.smul t q.hom := by
  simp only [Q.normSq] at ht
  apply M3.ext' <;> simp only [M3.smul, qM, Q.hom]
  · linear_combination (-1 : K) * ht
  · ring
  · ring
  · ring
  · linear_combination (-1 : K) * ht
  · ring
  · ring
  · ring
  · linear_combination (-1 : K) * ht

/-- multiplicativity for arbitrary non-zero quaternions.  NOTE the hypothesis `2 ≠ 0`: in
    characteristic 2 the relation `t * |q|² = 2` degenerates to `t * |q|² = 0` and the statement is
    false (counterexample in the doc comment of `C19_quaternion_multiply`). -/
theorem qM_mul (h2 : (2 : K) ≠ 0) (t1 w1 x1 y1 z1 t0 w0 x0 y0 z0 : K)
    (h1 : t1 * (w1 ^ 2 + x1 ^ 2 + y1 ^ 2 + z1 ^ 2) = 2) (h0 : t0 * (w0 ^ 2 + x0 ^ 2 + y0 ^ 2 + z0 ^ 2) = 2) :
    qM (t1 * t0 / 2) (Q.mul ⟨w1, x1, y1, z1⟩ ⟨w0, x0, y0, z0⟩).w (Q.mul ⟨w1, x1, y1, z1⟩ ⟨w0, x0, y0, z0⟩).x
        (Q.mul ⟨w1, x1, y1, z1⟩ ⟨w0, x0, y0, z0⟩).y (Q.mul ⟨w1, x1, y1, z1⟩ ⟨w0, x0, y0, z0⟩).z
      = qM t1 w1 x1 y1 z1 * qM t0 w0 x0 y0 z0 := by
  -- in terms of the quaternions `p`, `q`, whose norms then stay folded
  suffices key : ∀ p q : Q K, t1 * p.normSq = 2 → t0 * q.normSq = 2 →
      qM (t1 * t0 / 2) (p.mul q).w (p.mul q).x (p.mul q).y (p.mul q).z = qM t1 p.w p.x p.y p.z * qM t0 q.w q.x q.y q.z from
    key ⟨w1, x1, y1, z1⟩ ⟨w0, x0, y0, z0⟩ h1 h0
  intro p q h1 h0
  have ht : 2 * (t1 * t0 / 2) = t1 * t0 := mul_div_cancel₀ _ h2
  generalize t1 * t0 / 2 = t at ht
  have hn : t * (p.mul q).normSq = 2 := by
    rw [Q.normSq_mul]
    exact mul_left_cancel₀ h2 (by linear_combination (p.normSq * q.normSq) * ht + (t0 * q.normSq) * h1 + 2 * h0)
  -- four times either side is `t1 t0` times the product of the homogeneous forms
  apply M3.smul_cancel (mul_ne_zero h2 h2)
  have hr : M3.smul (2 * 2) (qM t1 p.w p.x p.y p.z * qM t0 q.w q.x q.y q.z) = M3.smul (t1 * t0) (p.hom * q.hom) := by
    rw [← M3.smul_smul, ← M3.mul_smul, ← M3.smul_mul, smul_qM t1 p h1, smul_qM t0 q h0, M3.smul_mul, M3.mul_smul,
      M3.smul_smul]
  rw [hr, ← M3.smul_smul, smul_qM t _ hn, Q.hom_mul, M3.smul_smul, ht]

/-! ### unit quaternions as a subtype: unconditional multiplicativity -/

def UQ (K : Type) [Field K] := {q : Q K // q.normSq = 1}

instance : Mul (UQ K) := ⟨fun p q => ⟨p.1.mul q.1, by rw [Q.normSq_mul, p.2, q.2, mul_one]⟩⟩

def UQ.rot (q : UQ K) : M3 K := q.1.rot

theorem UQ.mul_val (p q : UQ K) : (p * q).1 = p.1.mul q.1 := rfl

theorem UQ.rot_mul (p q : UQ K) : (p * q).rot = p.rot * q.rot := Q.rot_mul p.1 q.1 p.2 q.2

theorem UQ.rot_isRotation (q : UQ K) : q.rot.IsRotation := by
  have h := q.2
  simp only [Q.normSq] at h
  exact qM_isRotation 2 _ _ _ _ (by linear_combination 2 * h)

def UQ.ex (ch sh : K) (h : ch ^ 2 + sh ^ 2 = 1) : UQ K :=
  ⟨⟨ch, sh, 0, 0⟩, by simp only [Q.normSq]; linear_combination h⟩
def UQ.ey (ch sh : K) (h : ch ^ 2 + sh ^ 2 = 1) : UQ K :=
  ⟨⟨ch, 0, sh, 0⟩, by simp only [Q.normSq]; linear_combination h⟩
def UQ.ez (ch sh : K) (h : ch ^ 2 + sh ^ 2 = 1) : UQ K :=
  ⟨⟨ch, 0, 0, sh⟩, by simp only [Q.normSq]; linear_combination h⟩

theorem UQ.ex_val (ch sh : K) (h : ch ^ 2 + sh ^ 2 = 1) : (UQ.ex ch sh h).1 = ⟨ch, sh, 0, 0⟩ := rfl
theorem UQ.ey_val (ch sh : K) (h : ch ^ 2 + sh ^ 2 = 1) : (UQ.ey ch sh h).1 = ⟨ch, 0, sh, 0⟩ := rfl
theorem UQ.ez_val (ch sh : K) (h : ch ^ 2 + sh ^ 2 = 1) : (UQ.ez ch sh h).1 = ⟨ch, 0, 0, sh⟩ := rfl

theorem UQ.rot_ex {ch sh : K} (h : ch ^ 2 + sh ^ 2 = 1) :
    (UQ.ex ch sh h).rot = Rx (ch ^ 2 - sh ^ 2) (2 * sh * ch) := by
  have := qM_axis_angle ch sh 1 0 0 h (by ring)
  rw [one_mul, zero_mul] at this
  rw [Rx_eq_rotM]; exact this

theorem UQ.rot_ey {ch sh : K} (h : ch ^ 2 + sh ^ 2 = 1) :
    (UQ.ey ch sh h).rot = Ry (ch ^ 2 - sh ^ 2) (2 * sh * ch) := by
  have := qM_axis_angle ch sh 0 1 0 h (by ring)
  rw [one_mul, zero_mul] at this
  rw [Ry_eq_rotM]; exact this

theorem UQ.rot_ez {ch sh : K} (h : ch ^ 2 + sh ^ 2 = 1) :
    (UQ.ez ch sh h).rot = Rz (ch ^ 2 - sh ^ 2) (2 * sh * ch) := by
  have := qM_axis_angle ch sh 0 0 1 h (by ring)
  rw [one_mul, zero_mul] at this
  rw [Rz_eq_rotM]; exact this

end TV.Mat3
