/-
C11, the rational track (the code as written; Proofs/Slice.lean says how it stands to the field track): the pieces
`slice_faces_plane` keeps of one triangle (Model/Slice.lean, `sliceTri`).

The decision the code takes depends on the three signs only: it is a `Plan`, computed by `plan`, and its
27-row table is checked by `decide` (`plan_spec`, `plan_neg`: negating the plane flips the plan).  The
geometry is done once per plan, with the corner `k` the code picks left a variable (indices mod 3), so the
three rotations of a cut triangle are one case.
-/
import TrimeshVerif.Proofs.SliceRat
import Mathlib.Tactic.FieldSimp
namespace TV.Slice

def corners (t : Tri) : List V := [t.1, t.2.1, t.2.2]

/-- `corners t` is the literal list in which `nth_mem` states membership -/
theorem nth_mem_corners (t : Tri) (k : Nat) : nth t k ∈ corners t := nth_mem t k

theorem nth_0 (a b c : V) : nth (a, b, c) 0 = a := rfl
theorem nth_1 (a b c : V) : nth (a, b, c) 1 = b := rfl
theorem nth_2 (a b c : V) : nth (a, b, c) 2 = c := rfl
theorem nth_3 (a b c : V) : nth (a, b, c) 3 = a := rfl
theorem nth_4 (a b c : V) : nth (a, b, c) 4 = b := rfl
theorem nth_5 (a b c : V) : nth (a, b, c) 5 = c := rfl

theorem nth_add_three (t : Tri) (k : Nat) : nth t (k + 3) = nth t k := by
  unfold nth; rw [Nat.add_mod_right]

theorem addV_comm (a b : V) : addV a b = addV b a := by
  simp only [addV, add_comm]

/-! ### the decision, on the three signs -/

/-- the first corner with sign `v` -/
def pick (v x y : Int) : Nat := if x == v then 0 else if y == v then 1 else 2

inductive Plan where
  | inPlane | whole | dropped
  | quad (k : Nat)      -- corner `k` is cut away
  | corner (k : Nat)    -- corner `k` alone is kept
  deriving DecidableEq

def plan (x y z : Int) : Plan :=
  if zeros x y z == 3 then .inPlane
  else if onEdge x y z then
    if cutQuad x y z then .quad (pick 1 x y) else .corner (pick (-1) x y)
  else if inside x y z then .whole else .dropped

/-- what the opposite slice does in general position -/
def Plan.flip : Plan → Plan
  | .inPlane => .inPlane
  | .whole => .dropped
  | .dropped => .whole
  | .quad k => .corner k
  | .corner k => .quad k

/-- what a plan says about the three corners, given which of them are strictly on the side that is cut away
    (`out`) and which strictly on the side that is kept (`kept`) -/
def Plan.Spec (out kept : Nat → Prop) : Plan → Prop
  | .inPlane => True
  | .whole => ¬ out 0 ∧ ¬ out 1 ∧ ¬ out 2
  | .dropped => ¬ kept 0 ∧ ¬ kept 1 ∧ ¬ kept 2
  | .quad k => out k ∧ kept (k + 1) ∧ kept (k + 2)
  | .corner k => kept k ∧ ¬ kept (k + 1) ∧ ¬ kept (k + 2)

instance (out kept : Nat → Prop) [DecidablePred out] [DecidablePred kept] (p : Plan) :
    Decidable (p.Spec out kept) := by
  cases p <;> unfold Plan.Spec <;> infer_instance

theorem plan_spec : ∀ x ∈ signs, ∀ y ∈ signs, ∀ z ∈ signs,
    (plan x y z).Spec (sel x y z · = 1) (sel x y z · = -1) := by decide

/-- negating non-zero signs (general position) flips the plan; there the plan is also never `inPlane`, stated here
    because the same 8 rows decide it and `planOf_negV` hands both on -/
theorem plan_neg : ∀ x ∈ [1, -1], ∀ y ∈ [1, -1], ∀ z ∈ [(1 : Int), -1],
    plan (-x) (-y) (-z) = (plan x y z).flip ∧ plan x y z ≠ .inPlane := by decide

/-! ### the plan of a triangle and the pieces it stands for -/

def planOf (tol : Rat) (n o : V) (t : Tri) : Plan :=
  plan (signS tol (sdistR n o (nth t 0))) (signS tol (sdistR n o (nth t 1))) (signS tol (sdistR n o (nth t 2)))

def Plan.run (n o : V) (t : Tri) : Plan → SlicePieces
  | .inPlane => .inPlane
  | .whole => .whole
  | .dropped => .dropped
  | .quad k => .pieces [(nth t (k + 1), nth t (k + 2), cutPoint n o t (k + 2)),
      (cutPoint n o t (k + 2), cutPoint n o t k, nth t (k + 1))]
  | .corner k => .pieces [(nth t k, cutPoint n o t k, cutPoint n o t (k + 2))]

theorem sliceTri_eq_run (tol : Rat) (n o : V) (t : Tri) :
    sliceTri tol n o t = (planOf tol n o t).run n o t := by
  unfold planOf plan
  simp only [apply_ite (Plan.run n o t)]
  rfl

/-- the slice convention is the section convention negated, so the `signR_*` lemmas carry over -/
theorem signS_eq_neg (tol d : Rat) : signS tol d = - signR tol d := by
  unfold signS signR; split_ifs <;> rfl

theorem signS_mem (tol d : Rat) : signS tol d ∈ signs := by
  have h := signR_mem tol d
  rw [signS_eq_neg]
  simp only [signs, List.mem_cons, List.not_mem_nil, or_false] at h ⊢
  omega

theorem signS_eq_one (tol d : Rat) : signS tol d = 1 ↔ d < -tol := by
  rw [signS_eq_neg, neg_eq_iff_eq_neg, signR_eq_neg_one]

theorem signS_eq_neg_one (tol d : Rat) (htol : 0 ≤ tol) : signS tol d = -1 ↔ tol < d := by
  rw [signS_eq_neg, neg_inj, signR_eq_one _ _ htol]

theorem planOf_spec (tol : Rat) (htol : 0 ≤ tol) (n o : V) (t : Tri) :
    (planOf tol n o t).Spec (fun i => sdistR n o (nth t i) < -tol) (fun i => tol < sdistR n o (nth t i)) := by
  simpa only [planOf, sel_nth (fun x => signS tol (sdistR n o x)), signS_eq_one, signS_eq_neg_one _ _ htol] using
    plan_spec _ (signS_mem tol (sdistR n o (nth t 0))) _ (signS_mem tol (sdistR n o (nth t 1))) _
      (signS_mem tol (sdistR n o (nth t 2)))

/-! ### the opposite plane -/

theorem dot_negV (x n : V) : dotV x (negV n) = - dotV x n := by
  obtain ⟨n1, n2, n3⟩ := n
  obtain ⟨x1, x2, x3⟩ := x
  simp only [dotV, negV]
  ring

theorem sdistR_negV (n o x : V) : sdistR (negV n) o x = - sdistR n o x := dot_negV _ n

theorem edgePointR_neg (n o x y : V) : edgePointR (negV n) o x y = edgePointR n o x y := by
  unfold edgePointR
  rw [dot_negV, dot_negV, neg_div_neg_eq]

theorem edgePointR_swap (n o x y : V) (h : sdistR n o x ≠ sdistR n o y) :
    edgePointR n o x y = edgePointR n o y x := by
  have hD : sdistR n o y - sdistR n o x ≠ 0 := fun h0 => h (by linarith)
  have hD' : sdistR n o x - sdistR n o y ≠ 0 := fun h0 => h (by linarith)
  unfold edgePointR
  rw [edgePointR_num n o x, edgePointR_num n o y, edgePointR_den n o x y, edgePointR_den n o y x]
  generalize sdistR n o x = dx at *
  generalize sdistR n o y = dy at *
  obtain ⟨x1, x2, x3⟩ := x
  obtain ⟨y1, y2, y3⟩ := y
  simp only [addV, smulV, subV, Prod.mk.injEq]
  refine ⟨?_, ?_, ?_⟩ <;> field_simp <;> ring

theorem run_negV (n o : V) (t : Tri) (p : Plan) : p.run (negV n) o t = p.run n o t := by
  cases p <;> simp only [Plan.run, cutPoint, edgePointR_neg]

theorem signS_negV (tol : Rat) (htol : 0 ≤ tol) (n o x : V) (h : tol < sdistR n o x ∨ sdistR n o x < -tol) :
    signS tol (sdistR n o x) ∈ [1, -1] ∧ signS tol (sdistR (negV n) o x) = - signS tol (sdistR n o x) := by
  rw [sdistR_negV]
  rcases h with h | h
  · rw [(signS_eq_neg_one tol _ htol).2 h, (signS_eq_one tol _).2 (by linarith)]; simp
  · rw [(signS_eq_one tol _).2 h, (signS_eq_neg_one tol _ htol).2 (by linarith)]; simp

theorem planOf_negV (tol : Rat) (htol : 0 ≤ tol) (n o : V) (t : Tri)
    (hgen : ∀ x ∈ corners t, tol < sdistR n o x ∨ sdistR n o x < -tol) :
    planOf tol (negV n) o t = (planOf tol n o t).flip ∧ planOf tol n o t ≠ .inPlane := by
  obtain ⟨hx, ex⟩ := signS_negV tol htol n o _ (hgen _ (nth_mem_corners t 0))
  obtain ⟨hy, ey⟩ := signS_negV tol htol n o _ (hgen _ (nth_mem_corners t 1))
  obtain ⟨hz, ez⟩ := signS_negV tol htol n o _ (hgen _ (nth_mem_corners t 2))
  unfold planOf
  rw [ex, ey, ez]
  exact plan_neg _ hx _ hy _ hz

/-! ### area vectors of the pieces -/

theorem areaVecR_nth (t : Tri) (k : Nat) : areaVecR (nth t k, nth t (k + 1), nth t (k + 2)) = areaVecR t := by
  obtain ⟨⟨a1, a2, a3⟩, ⟨b1, b2, b3⟩, ⟨c1, c2, c3⟩⟩ := t
  have h : k % 3 < 3 := Nat.mod_lt _ (by decide)
  unfold nth
  rw [Nat.add_mod k 1, Nat.add_mod k 2]
  generalize k % 3 = r at h
  rcases r with _ | _ | _ | r
  · rfl
  · simp only [areaVecR, crossV, subV, Prod.mk.injEq]
    refine ⟨?_, ?_, ?_⟩ <;> ring
  · simp only [areaVecR, crossV, subV, Prod.mk.injEq]
    refine ⟨?_, ?_, ?_⟩ <;> ring
  · omega

/-- triangle `(a, b, c)` cut at `p` on line `ab` and `q` on line `ca`: the corner piece `(a, p, q)` and the two
    halves `(b, c, q)`, `(q, p, b)` of the quad are multiples of the triangle, and add up to it -/
theorem cut_pieces (a b c p q : V) (s u : Rat) (hp : p = addV a (smulV s (subV b a)))
    (hq : q = addV c (smulV u (subV a c))) :
    areaVecR (a, p, q) = smulV (s * (1 - u)) (areaVecR (a, b, c)) ∧
    areaVecR (b, c, q) = smulV u (areaVecR (a, b, c)) ∧
    areaVecR (q, p, b) = smulV ((1 - s) * (1 - u)) (areaVecR (a, b, c)) ∧
    addV (addV (areaVecR (b, c, q)) (areaVecR (q, p, b))) (areaVecR (a, p, q)) = areaVecR (a, b, c) := by
  subst hp hq
  obtain ⟨a1, a2, a3⟩ := a
  obtain ⟨b1, b2, b3⟩ := b
  obtain ⟨c1, c2, c3⟩ := c
  simp only [addV, areaVecR, crossV, subV, smulV, Prod.mk.injEq]
  refine ⟨⟨?_, ?_, ?_⟩, ⟨?_, ?_, ?_⟩, ⟨?_, ?_, ?_⟩, ?_, ?_, ?_⟩ <;> ring

/-- with `a` strictly on one side of the band and `b`, `c` on the other, the three pieces are wound like the
    triangle -/
theorem cut_oriented (tol : Rat) (htol : 0 ≤ tol) (n o a b c : V)
    (h : sdistR n o a < -tol ∧ tol < sdistR n o b ∧ tol < sdistR n o c ∨
      tol < sdistR n o a ∧ sdistR n o b < -tol ∧ sdistR n o c < -tol) :
    ∀ piece ∈ [(a, edgePointR n o a b, edgePointR n o c a), (b, c, edgePointR n o c a),
        (edgePointR n o c a, edgePointR n o a b, b)],
      ∃ k : Rat, 0 ≤ k ∧ k ≤ 1 ∧ areaVecR piece = smulV k (areaVecR (a, b, c)) := by
  obtain ⟨s, hs0, hs1, es⟩ := edgePointR_between tol htol n o a b
    (h.imp (fun h => ⟨h.1, h.2.1⟩) (fun h => ⟨h.2.1, h.1⟩))
  obtain ⟨u, hu0, hu1, eu⟩ := edgePointR_between tol htol n o c a
    (h.symm.imp (fun h => ⟨h.2.2, h.1⟩) (fun h => ⟨h.1, h.2.2⟩))
  obtain ⟨h1, h2, h3, -⟩ := cut_pieces a b c _ _ s u es eu
  have hs : 0 ≤ 1 - s := by linarith
  have hu : 0 ≤ 1 - u := by linarith
  simp only [List.forall_mem_cons, List.not_mem_nil, false_imp_iff, implies_true, and_true]
  exact ⟨⟨_, mul_nonneg hs0.le hu, mul_le_one₀ hs1.le hu (by linarith), h1⟩, ⟨u, hu0.le, hu1.le, h2⟩,
    _, mul_nonneg hs hu, mul_le_one₀ (by linarith) hu (by linarith), h3⟩

end TV.Slice
