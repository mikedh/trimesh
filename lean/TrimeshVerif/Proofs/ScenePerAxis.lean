/-
C10: `Scene.scaled` with three different factors.  The code scales every geometry in the node's own frame
(`T⁻¹ · diag(s) · T` with `T` the linear part of the node's world matrix) and multiplies every edge translation by
`diag(s)`.  That moves every placed point to `diag(s) · p` exactly when `diag(s)` commutes with the linear part of
every edge on the way to the node (`chainWorld_scaled`, for `C10_scaled_per_axis_partial`); otherwise it does not
(`C10_scaled_per_axis_witness` in Props/C10.lean; the defect is a recorded finding).
-/
import TrimeshVerif.Proofs.Scene
namespace TV.Scene
open TV.Mat3 TV.Affine

variable {K : Type} [Field K]

/-- world transform of a node reached through a chain of edges `(R, u)`, base frame first -/
def chainWorld : List (M3 K × V3 K) → M3 K × V3 K
  | [] => (1, (0, 0, 0))
  | (R, u) :: rest => let w := chainWorld rest; (R * w.1, add (R.apply w.2) u)

/-- what `scaled` does to an edge: the translation column is multiplied by the scale, the rest is kept -/
def scaleEdge (S : M3 K) (e : M3 K × V3 K) : M3 K × V3 K := (e.1, S.apply e.2)

theorem chainWorld_scaled (S : M3 K) (es : List (M3 K × V3 K)) (hc : ∀ e ∈ es, S * e.1 = e.1 * S) :
    chainWorld (es.map (scaleEdge S)) = ((chainWorld es).1, S.apply (chainWorld es).2) := by
  induction es with
  | nil =>
    simp [chainWorld, M3.apply]
  | cons e rest ih =>
    obtain ⟨R, u⟩ := e
    obtain ⟨hR, hrest⟩ := List.forall_mem_cons.1 hc
    simp only [List.map_cons, chainWorld, scaleEdge, ih hrest, Prod.mk.injEq, true_and]
    rw [apply_add, ← apply_mul, ← apply_mul, hR]

end TV.Scene
