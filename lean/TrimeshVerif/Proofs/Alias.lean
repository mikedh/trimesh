import TrimeshVerif.Model.Alias
/-!
Lemmas for C17 (copies share no mutable state): a write changes one cell, so edits leave alone every object that
reaches none of the written cells, and the copied heap reads as the original at the fresh names and is unchanged
elsewhere.
-/
namespace TV.Alias

variable {V : Type}

theorem disjointB_iff (a b : List Cell) : disjointB a b = true ↔ ∀ c, c ∈ a → c ∉ b := by
  simp [disjointB, List.all_eq_true]

theorem disjointB_sound_symm {a b : List Cell} (h : disjointB a b = true) : ∀ c, c ∈ b → c ∉ a :=
  fun c hb ha => (disjointB_iff a b).1 h c ha hb

theorem write_of_ne (h : Cell → V) (c : Cell) (v : V) (x : Cell) (hx : x ≠ c) :
    write h c v x = h x := by
  simp [write, hx]

theorem write_same (h : Cell → V) (c : Cell) (v : V) : write h c v c = v := by
  simp [write]

theorem applyEdits_of_not_written (h : Cell → V) (es : List (Cell × V)) (x : Cell)
    (hx : ∀ e ∈ es, e.1 ≠ x) : applyEdits h es x = h x := by
  fun_induction applyEdits h es with
  | case1 => rfl
  | case2 h c v es ih =>
    rw [ih fun e he => hx e (List.mem_cons_of_mem _ he)]
    exact write_of_ne h c v x fun hxc => hx (c, v) List.mem_cons_self hxc.symm

theorem observe_applyEdits_of_avoid (h : Cell → V) (o : Obj) (es : List (Cell × V))
    (hav : ∀ e ∈ es, e.1 ∉ o.cells) : observe (applyEdits h es) o = observe h o :=
  List.map_congr_left fun x hx => applyEdits_of_not_written h es x fun e he hex => hav e he (hex ▸ hx)

theorem copyHeap_ren (h : Cell → V) (a : Obj) (ren : Cell → Cell)
    (hinj : ∀ c ∈ a.cells, ∀ c' ∈ a.cells, ren c = ren c' → c = c')
    (c : Cell) (hc : c ∈ a.cells) : copyHeap ren a h (ren c) = h c := by
  unfold copyHeap
  cases hf : a.cells.find? (fun c' => ren c' == ren c) with
  | none => exact absurd (List.find?_eq_none.1 hf c hc) (by simp)
  | some c' =>
    rw [hinj c' (List.mem_of_find?_eq_some hf) c hc (by simpa using List.find?_some hf)]

theorem copyHeap_of_not_fresh (h : Cell → V) (a : Obj) (ren : Cell → Cell) (x : Cell)
    (hx : ∀ c ∈ a.cells, ren c ≠ x) : copyHeap ren a h x = h x := by
  unfold copyHeap
  rw [List.find?_eq_none.mpr fun c hc => by simpa using hx c hc]

end TV.Alias
