/-
C15, one fact for each construction of Props/C15.lean: the profile sums of the shapes built on `revolve` in closed form
(`profiles`), the icosahedron table is a closed surface, which subdivision then keeps closed (`ico_closed`), and a box
coordinate scaled and centred stays within half the extent (`centred_bounds`).
-/
import TrimeshVerif.Model.Creation
import TrimeshVerif.Proofs.Remesh
import TrimeshVerif.Generated.C15Tables
import Mathlib.Tactic.Ring
import Mathlib.Tactic.Linarith
import Mathlib.Algebra.Order.Field.Rat
namespace TV.Creation
open TV.Query

/-- `profileSum`, the profile factor of six times the tessellated volume of a revolve (`C15_revolve_volume`), for the
    three profiles `creation` revolves, as (radius, height) points: the rectangle of `cylinder`, the triangle of `cone`
    and the closed rectangle off the axis of `annulus` -/
theorem profiles (R r h : Rat) :
    profileSum [(0, -h / 2), (R, -h / 2), (R, h / 2), (0, h / 2)] = 3 * h * (R * R) ∧
    profileSum [(0, 0), (R, 0), (0, h)] = h * (R * R) ∧
    profileSum [(r, -h / 2), (R, -h / 2), (R, h / 2), (r, h / 2), (r, -h / 2)] = 3 * h * (R * R - r * r) := by
  simp only [profileSum, profileTerm]
  refine ⟨?_, ?_, ?_⟩ <;> ring

theorem ico_closed : TV.Remesh.Closed TV.Generated.icoFaces := by
  unfold TV.Remesh.Closed
  decide

/-- a unit-cube coordinate `c ∈ {0, 1}` scaled to the extent `e ≥ 0` and centred lies in `[-e/2, e/2]` -/
theorem centred_bounds (c : Nat) (e : Rat) (hc : c ≤ 1) (he : 0 ≤ e) :
    -e / 2 ≤ ((c : Rat) - 1 / 2) * e ∧ ((c : Rat) - 1 / 2) * e ≤ e / 2 := by
  have h0 : 0 ≤ c * e := mul_nonneg (Nat.cast_nonneg c) he
  have h1 : 0 ≤ (1 - c) * e := mul_nonneg (sub_nonneg.mpr (Nat.cast_le_one.mpr hc)) he
  exact ⟨by linarith, by linarith⟩

end TV.Creation
