import TrimeshVerif.Model.Grouping
import TrimeshVerif.Proofs.SortRuns
/-
`hashable_rows` (C06): the orders used for sorting are orders (`intLe`, `natLe`, `lexLe`); the xor/shift loop that
packs a row into a uint64 computes a numeral in base `2 ^ precision` (`packFields_eq`), so that it is injective on
rows whose fields fit (`packFields_inj`), which the range guard `InGuard` ensures (`packRow_inj`); hence hashing
relabels the rows faithfully and the groups of the hashes are the groups of the rows (`hashable_isGrouping`).
Core Lean only.
-/
namespace TV.Grouping
open TV

theorem intLe_isOrder : IsOrder intLe where
  total := by intro a b; simp [intLe]; omega
  trans := by intro a b c; simp [intLe]; omega
  antisymm := by intro a b; simp [intLe]; omega

theorem natLe_isOrder : IsOrder natLe where
  total := by intro a b; simp [natLe]; omega
  trans := by intro a b c; simp [natLe]; omega
  antisymm := by intro a b; simp [natLe]; omega

/-- `lexLe` decides core's lexicographic order on lists -/
theorem lexLe_iff : ∀ a b : List Int, lexLe a b = true ↔ a ≤ b
  | [], _ => by simp [lexLe]
  | _ :: _, [] => by simp [lexLe]
  | a :: as, b :: bs => by
    rw [lexLe, List.cons_le_cons_iff, ← lexLe_iff as bs]
    by_cases h1 : a < b
    · simp [h1]
    · by_cases h2 : a = b <;> simp [h1, h2]

theorem lexLe_isOrder : IsOrder lexLe where
  total a b := by simpa [← lexLe_iff] using List.le_total a b
  trans a b c := by simp only [lexLe_iff]; exact List.le_trans
  antisymm a b := by simp only [lexLe_iff]; exact List.le_antisymm

theorem xor_shift_eq_add (a b k : Nat) (ha : a < 2 ^ k) : a ^^^ (b <<< k) = a + b * 2 ^ k := by
  -- split at bit `k`: the quotient is `b`, the remainder `a`
  rw [← Nat.div_add_mod (a ^^^ b <<< k) (2 ^ k), Nat.xor_div_two_pow, Nat.xor_mod_two_pow, Nat.shiftLeft_eq,
    Nat.div_eq_of_lt ha, Nat.mod_eq_of_lt ha, Nat.mul_div_cancel _ (Nat.two_pow_pos k), Nat.mul_mod_left,
    Nat.zero_xor, Nat.xor_zero, Nat.add_comm, Nat.mul_comm]

/-- positional value of the fields, least significant first -/
def fieldsVal (p : Nat) : List Nat → Nat
  | [] => 0
  | y :: ys => y + 2 ^ p * fieldsVal p ys

theorem add_mul_lt {p a x q : Nat} (ha : a < p) (hx : x < q) : a + p * x < p * q :=
  Nat.lt_of_lt_of_le (by rw [Nat.mul_succ]; omega) (Nat.mul_le_mul_left p hx)

theorem two_pow_succ_mul (k p : Nat) : 2 ^ ((k + 1) * p) = 2 ^ (k * p) * 2 ^ p := by
  rw [Nat.add_mul, Nat.one_mul, Nat.pow_add]

theorem fieldsVal_lt (p : Nat) : ∀ ys : List Nat, (∀ y ∈ ys, y < 2 ^ p) → fieldsVal p ys < 2 ^ (ys.length * p)
  | [], _ => by simp [fieldsVal]
  | y :: ys, h => by
    rw [fieldsVal, List.length_cons, two_pow_succ_mul, Nat.mul_comm (2 ^ (ys.length * p))]
    exact add_mul_lt (h y (by simp)) (fieldsVal_lt p ys (fun z hz => h z (List.mem_cons_of_mem _ hz)))

theorem packStep_eq {p acc k y : Nat} (hacc : acc < 2 ^ (k * p)) (h64 : acc + 2 ^ (k * p) * y < 2 ^ 64) :
    packStep p (acc, k) y = (acc + 2 ^ (k * p) * y, k + 1) := by
  rw [packStep, xor_shift_eq_add _ _ _ hacc, Nat.mul_comm y, Nat.mod_eq_of_lt h64]

/-- the xor/shift loop computes the positional value: no carries (`acc` lies below the next field), no uint64
    overflow (the value fits) -/
theorem foldl_packStep (p : Nat) : ∀ (ys : List Nat) (acc k : Nat),
    (∀ y ∈ ys, y < 2 ^ p) → acc < 2 ^ (k * p) → acc + 2 ^ (k * p) * fieldsVal p ys < 2 ^ 64 →
    ys.foldl (packStep p) (acc, k) = (acc + 2 ^ (k * p) * fieldsVal p ys, k + ys.length)
  | [], acc, k, _, _, _ => by simp [fieldsVal]
  | y :: ys, acc, k, hy, hacc, h64 => by
    -- the value as `acc + 2 ^ (k * p) * y + 2 ^ ((k + 1) * p) * fieldsVal p ys`: one step, then the rest
    rw [fieldsVal, Nat.mul_add, ← Nat.mul_assoc, ← two_pow_succ_mul, ← Nat.add_assoc] at h64 ⊢
    rw [List.foldl_cons, packStep_eq hacc (by omega),
      foldl_packStep p ys _ (k + 1) (fun z hz => hy z (List.mem_cons_of_mem _ hz)) ?_ h64,
      List.length_cons, Nat.add_assoc k, Nat.add_comm 1]
    rw [two_pow_succ_mul]
    exact add_mul_lt hacc (hy y List.mem_cons_self)

theorem packFields_eq (p : Nat) (ys : List Nat) (hy : ∀ y ∈ ys, y < 2 ^ p) (hlen : ys.length * p ≤ 64) :
    packFields p ys = fieldsVal p ys := by
  have := Nat.lt_of_lt_of_le (fieldsVal_lt p ys hy) (Nat.pow_le_pow_right (by omega) hlen)
  rw [packFields, foldl_packStep p ys 0 0 hy (by simp) (by simpa using this)]
  simp

theorem fieldsVal_inj (p : Nat) : ∀ (ys zs : List Nat), ys.length = zs.length →
    (∀ y ∈ ys, y < 2 ^ p) → (∀ z ∈ zs, z < 2 ^ p) → fieldsVal p ys = fieldsVal p zs → ys = zs
  | [], [], _, _, _, _ => rfl
  | [], _ :: _, h, _, _, _ => by simp at h
  | _ :: _, [], h, _, _, _ => by simp at h
  | y :: ys, z :: zs, hl, hy, hz, he => by
    obtain ⟨rfl, hv⟩ := add_mul_inj (hy y (by simp)) (hz z (by simp)) he
    rw [fieldsVal_inj p ys zs (by simpa using hl)
      (fun a ha => hy a (List.mem_cons_of_mem _ ha)) (fun a ha => hz a (List.mem_cons_of_mem _ ha)) hv]

theorem packFields_inj (p : Nat) (ys zs : List Nat) (hl : ys.length = zs.length)
    (hy : ∀ y ∈ ys, y < 2 ^ p) (hz : ∀ z ∈ zs, z < 2 ^ p) (hlen : ys.length * p ≤ 64)
    (he : packFields p ys = packFields p zs) : ys = zs := by
  rw [packFields_eq p ys hy hlen, packFields_eq p zs hz (by rw [← hl]; exact hlen)] at he
  exact fieldsVal_inj p ys zs hl hy hz he

theorem hashableRows_length (cols : Nat) (rows : List (List Int)) :
    (hashableRows cols rows).length = rows.length := by
  unfold hashableRows; split
  · rfl
  · split <;> simp

/-- the guard of `hashable_rows` on one value, as an explicit predicate (named in `TV.C06`, where the property
    theorems state their hypotheses with it) -/
def _root_.TV.C06.InGuard (cols : Nat) (v : Int) : Prop := v < threshold cols ∧ -(threshold cols) < v

open TV.C06 (InGuard)

theorem guardOk_iff (cols : Nat) (rows : List (List Int)) :
    guardOk cols rows = true ↔ ∀ r ∈ rows, ∀ v ∈ r, InGuard cols v := by
  simp [guardOk, InGuard]

/-- a guarded value, offset by `threshold + 1` and cast to uint64, is the integer `v + threshold + 1` (it is
    non-negative and the cast does not change it) and fits its field.  The split on `cols` turns `threshold cols`
    and `precision cols` into numerals, which `omega` needs. -/
theorem field_bound (cols : Nat) (hc : cols = 2 ∨ cols = 3 ∨ cols = 4) (v : Int) (h : InGuard cols v) :
    (((v + (threshold cols + 1)) % 2 ^ 64).toNat : Int) = v + (threshold cols + 1) ∧
    ((v + (threshold cols + 1)) % 2 ^ 64).toNat < 2 ^ precision cols := by
  unfold InGuard at h
  rcases hc with rfl | rfl | rfl <;> simp only [threshold, precision] at h ⊢ <;> omega

theorem packRow_inj (cols : Nat) (hc : cols = 2 ∨ cols = 3 ∨ cols = 4)
    (r r' : List Int) (hl : r.length = cols) (hl' : r'.length = cols)
    (hg : ∀ v ∈ r, InGuard cols v) (hg' : ∀ v ∈ r', InGuard cols v)
    (h : packRow cols r = packRow cols r') : r = r' := by
  -- every field fits, and the row fits in 64 bits
  refine map_inj_of_mem (fun x hx y hy e => ?_) (packFields_inj (precision cols) _ _ (by simp [hl, hl'])
    (List.forall_mem_map.mpr fun v hv => (field_bound cols hc v (hg v hv)).2)
    (List.forall_mem_map.mpr fun v hv => (field_bound cols hc v (hg' v hv)).2)
    (by simpa [hl, precision] using Nat.mul_div_le 64 cols) h)
  -- the offset map is injective on guarded values
  have hx := (field_bound cols hc x (hg x hx)).1
  have hy := (field_bound cols hc y (hg' y hy)).1
  rw [e] at hx
  omega

theorem hashableRows_faithful (cols : Nat) (rows : List (List Int)) (hl : ∀ r ∈ rows, r.length = cols) :
    ∃ f : List Int → List Int, hashableRows cols rows = rows.map f ∧
      ∀ r ∈ rows, ∀ r' ∈ rows, f r = f r' → r = r' := by
  have hid : ∃ f : List Int → List Int, rows = rows.map f ∧ ∀ r ∈ rows, ∀ r' ∈ rows, f r = f r' → r = r' :=
    ⟨id, (List.map_id _).symm, fun _ _ _ _ e => e⟩
  unfold hashableRows
  split
  · exact hid
  split
  · next h1 h2 =>
    rw [Bool.and_eq_true, decide_eq_true_eq, guardOk_iff] at h2
    refine ⟨fun r => [(packRow cols r : Int)], rfl, fun r hr r' hr' e => ?_⟩
    by_cases h0 : cols = 0
    · -- no columns: every row is empty
      subst h0
      rw [List.length_eq_zero_iff.mp (hl r hr), List.length_eq_zero_iff.mp (hl r' hr')]
    · exact packRow_inj cols (by omega) r r' (hl r hr) (hl r' hr') (h2.2 r hr) (h2.2 r' hr')
        (Int.ofNat.inj (List.cons.inj e).1)
  · exact hid

/-- so the groups computed on the hashes group the rows themselves -/
theorem hashable_isGrouping (cols : Nat) (rows : List (List Int)) (hl : ∀ r ∈ rows, r.length = cols) :
    IsGrouping rows (groupsOf lexLe (hashableRows cols rows)) := by
  obtain ⟨f, hf, finj⟩ := hashableRows_faithful cols rows hl
  rw [hf]
  exact (groupsOf_isGrouping lexLe_isOrder _).of_map finj

theorem uniqueRows_eq (cols : Nat) (rows : List (List Int)) (keepOrder : Bool) :
    uniqueRows cols rows keepOrder = uniqueOfGroups rows.length
      (if keepOrder then orderByHead (groupsOf lexLe (hashableRows cols rows))
        else groupsOf lexLe (hashableRows cols rows)) := by
  rw [uniqueRows, uniqueIdxInv_ite_eq, hashableRows_length]

end TV.Grouping
