/-
Shells and holes (C14 `polygons.enclosure_tree`): polygons of disjoint or nested simple closed curves are ordered by
containment, a strict order in which the containers of any polygon form a chain.  The code counts, for every polygon,
how many others contain it (its in-degree), calls the even ones roots (shells) and gives a root the polygons of degree
one more that it contains as holes.  Then every polygon of odd degree is the hole of exactly one root.
-/
import Mathlib.Data.Finset.Card
import Mathlib.Data.Finset.Image
import Mathlib.Data.Fintype.Basic
import Mathlib.Data.Fintype.Card
import Mathlib.Data.Finset.Range
namespace TV.Enclosure

variable {n : Nat} (C : Fin n → Fin n → Prop) [DecidableRel C]

/-- containment of nested / disjoint regions: a strict order whose up-sets are chains -/
structure Laminar : Prop where
  irrefl : ∀ a, ¬ C a a
  trans : ∀ a b c, C a b → C b c → C a c
  chain : ∀ a b c, C a c → C b c → a = b ∨ C a b ∨ C b a

def containers (j : Fin n) : Finset (Fin n) := Finset.univ.filter (fun i => C i j)

/-- `contains.in_degree()[j]` -/
def deg (j : Fin n) : Nat := (containers C j).card

variable {C}

theorem mem_containers {i j : Fin n} : i ∈ containers C j ↔ C i j := by simp [containers]

theorem deg_lt (h : Laminar C) {a b : Fin n} (hab : C a b) : deg C a < deg C b := by
  unfold deg
  apply Finset.card_lt_card
  rw [Finset.ssubset_iff_of_subset]
  · exact ⟨a, mem_containers.mpr hab, fun hm => h.irrefl a (mem_containers.mp hm)⟩
  · intro i hi
    exact mem_containers.mpr (h.trans i a b (mem_containers.mp hi) hab)

theorem deg_injOn (h : Laminar C) (c : Fin n) : Set.InjOn (deg C) (containers C c : Set (Fin n)) := by
  intro a ha b hb hd
  have ha' := mem_containers.mp ha
  have hb' := mem_containers.mp hb
  rcases h.chain a b c ha' hb' with e | e | e
  · exact e
  · have := deg_lt h e; omega
  · have := deg_lt h e; omega

theorem image_deg (h : Laminar C) (c : Fin n) :
    (containers C c).image (deg C) = Finset.range (deg C c) := by
  apply Finset.eq_of_subset_of_card_le
  · intro d hd
    obtain ⟨a, ha, rfl⟩ := Finset.mem_image.mp hd
    exact Finset.mem_range.mpr (deg_lt h (mem_containers.mp ha))
  · rw [Finset.card_range, Finset.card_image_of_injOn (deg_injOn h c)]
    exact Nat.le_refl _

/-- **every polygon has exactly one container of each smaller degree** -/
theorem exists_unique_container (h : Laminar C) (c : Fin n) (d : Nat) (hd : d < deg C c) :
    ∃! r, C r c ∧ deg C r = d := by
  have : d ∈ (containers C c).image (deg C) := by rw [image_deg h c]; exact Finset.mem_range.mpr hd
  obtain ⟨r, hr, hrd⟩ := Finset.mem_image.mp this
  refine ⟨r, ⟨mem_containers.mp hr, hrd⟩, ?_⟩
  rintro r' ⟨hc, hd'⟩
  exact deg_injOn h c (mem_containers.mpr hc) hr (by rw [hd', hrd])

end TV.Enclosure
