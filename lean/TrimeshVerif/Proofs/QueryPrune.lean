/-
Lemmas for the broad phase of the ray queries (C12; the theorems are `C12_ray_bounds_complete`,
`C12_hit_is_candidate`, `C12_pruning_lossless`, `C12_nearby_complete`): scalar facts about clamped ray parameters,
boxes, and the fold that builds the tree bounds.  The box `ray_bounds` puts around a ray contains every point of the
ray that lies ahead of the origin and inside the tree bounds along the dominant axis; a triangle that is hit
therefore has a box meeting the ray's box, so pruning with the r-tree loses no hit.
-/
import TrimeshVerif.Proofs.Query
namespace TV.Query

/-! ### scalar lemmas -/

theorem clampLo_mono (buf x y : Rat) (h : x ≤ y) : clampLo buf x ≤ clampLo buf y := by
  unfold clampLo; split <;> split <;> linarith

theorem clampLo_ge (buf x : Rat) : x ≤ clampLo buf x ∧ buf ≤ clampLo buf x := by
  unfold clampLo; split <;> constructor <;> linarith

theorem min_le_mul_add_le_max (x y z dk ok : Rat) (h : (x ≤ y ∧ y ≤ z) ∨ (z ≤ y ∧ y ≤ x)) :
    min (x * dk + ok) (z * dk + ok) ≤ y * dk + ok ∧ y * dk + ok ≤ max (x * dk + ok) (z * dk + ok) := by
  wlog hxz : x ≤ y ∧ y ≤ z generalizing x z with H
  · rw [min_comm, max_comm]
    exact H z x h.symm (h.resolve_left hxz)
  obtain ⟨h1, h2⟩ := hxz
  rcases le_total 0 dk with hd | hd
  · exact ⟨le_trans (min_le_left _ _) (by linarith [mul_le_mul_of_nonneg_right h1 hd]),
      le_trans (by linarith [mul_le_mul_of_nonneg_right h2 hd]) (le_max_right _ _)⟩
  · exact ⟨le_trans (min_le_right _ _) (by linarith [mul_le_mul_of_nonpos_right h2 hd]),
      le_trans (by linarith [mul_le_mul_of_nonpos_right h1 hd]) (le_max_left _ _)⟩

/-- clamping the parameter moves the coordinate by at most `buf` when the direction component is at most 1 -/
theorem clamp_shift (buf t dk : Rat) (hb : 0 ≤ buf) (ht : 0 ≤ t) (hd1 : -1 ≤ dk) (hd2 : dk ≤ 1) :
    clampLo buf t * dk - buf ≤ t * dk ∧ t * dk ≤ clampLo buf t * dk + buf := by
  unfold clampLo
  split
  · next h =>
    constructor
    · linarith [mul_nonneg (sub_nonneg.2 h.le) (sub_nonneg.2 hd2)]
    · linarith [mul_nonneg (sub_nonneg.2 h.le) (sub_nonneg.2 hd1)]
  · constructor <;> linarith

/-- one coordinate of the completeness statement of `ray_bounds`: `ok`, `dk` are that coordinate of origin and
    direction, `t0`, `t1` the two plane parameters before clamping -/
theorem rayBounds_complete_coord (ok dk t t0 t1 buf : Rat) (hb : 0 ≤ buf) (ht : 0 ≤ t) (hd1 : -1 ≤ dk) (hd2 : dk ≤ 1)
    (hbt : (t0 ≤ t ∧ t ≤ t1) ∨ (t1 ≤ t ∧ t ≤ t0)) :
    min (clampLo buf t0 * dk + ok) (clampLo buf t1 * dk + ok) - buf ≤ ok + t * dk ∧
    ok + t * dk ≤ max (clampLo buf t0 * dk + ok) (clampLo buf t1 * dk + ok) + buf := by
  have hs := clamp_shift buf t dk hb ht hd1 hd2
  -- clamping is monotone, so the clamped parameter is again between the two clamped plane parameters
  have hb' := min_le_mul_add_le_max _ (clampLo buf t) _ dk ok
    (hbt.imp (And.imp (clampLo_mono _ _ _) (clampLo_mono _ _ _)) (And.imp (clampLo_mono _ _ _) (clampLo_mono _ _ _)))
  constructor <;> linarith [hb'.1, hb'.2, hs.1, hs.2]

theorem param_between (lo hi oa da t : Rat) (hda : da ≠ 0) (h1 : lo ≤ oa + t * da) (h2 : oa + t * da ≤ hi) :
    ((lo - oa) / da ≤ t ∧ t ≤ (hi - oa) / da) ∨ ((hi - oa) / da ≤ t ∧ t ≤ (lo - oa) / da) := by
  rcases lt_or_gt_of_ne hda with hneg | hpos
  · right
    constructor
    · rw [div_le_iff_of_neg hneg]; linarith
    · rw [le_div_iff_of_neg hneg]; linarith
  · left
    constructor
    · rw [div_le_iff₀ hpos]; linarith
    · rw [le_div_iff₀ hpos]; linarith

/-! ### the box of a ray -/

def inBox (p : P) (b : Box) : Prop :=
  b.1.1 ≤ p.1 ∧ p.1 ≤ b.2.1 ∧ b.1.2.1 ≤ p.2.1 ∧ p.2.1 ≤ b.2.2.1 ∧ b.1.2.2 ≤ p.2.2 ∧ p.2.2 ≤ b.2.2.2

/-- all direction components at most one in magnitude (true of unit vectors) -/
def SubUnit (d : P) : Prop := -1 ≤ d.1 ∧ d.1 ≤ 1 ∧ -1 ≤ d.2.1 ∧ d.2.1 ≤ 1 ∧ -1 ≤ d.2.2 ∧ d.2.2 ≤ 1

theorem absQ_eq_abs (x : Rat) : absQ x = |x| := by
  unfold absQ
  split
  · exact (abs_of_neg ‹_›).symm
  · exact (abs_of_nonneg (not_lt.1 ‹_›)).symm

theorem absQ_le_argmax (d : P) : absQ d.1 ≤ absQ (get d (argmaxAbs d)) ∧
    absQ d.2.1 ≤ absQ (get d (argmaxAbs d)) ∧ absQ d.2.2 ≤ absQ (get d (argmaxAbs d)) := by
  obtain ⟨x, y, z⟩ := d
  unfold argmaxAbs
  dsimp only
  split
  · next h1 => exact ⟨le_refl _, h1.1, h1.2⟩
  · next h1 =>
    split
    · next h2 => exact ⟨le_of_not_ge fun h => h1 ⟨h, le_trans h2 h⟩, le_refl _, h2⟩
    · next h2 =>
      have hy := (not_le.1 h2).le
      exact ⟨le_of_not_ge fun h => h1 ⟨le_trans hy h, h⟩, hy, le_refl _⟩

theorem argmax_ne_zero (d : P) (hd : d ≠ (0, 0, 0)) : get d (argmaxAbs d) ≠ 0 := by
  intro h
  have hm := absQ_le_argmax d
  simp only [h, absQ_eq_abs, abs_zero, abs_nonpos_iff] at hm
  exact hd (Prod.ext hm.1 (Prod.ext hm.2.1 hm.2.2))

theorem get_add_smul (o d : P) (t : Rat) (k : Nat) : get (add o (smul t d)) k = get o k + t * get d k := by
  unfold get add smul; split <;> rfl

/-! ### triangles, their boxes and the tree bounds -/

theorem conv3_bounds (a b c u v : Rat) (hu : 0 ≤ u) (hv : 0 ≤ v) (huv : u + v ≤ 1) :
    min a (min b c) ≤ a + (u * (b - a) + v * (c - a)) ∧ a + (u * (b - a) + v * (c - a)) ≤ max a (max b c) := by
  have hw : 0 ≤ 1 - u - v := by linarith
  have m2 : min a (min b c) ≤ b := le_trans (min_le_right _ _) (min_le_left _ _)
  have m3 : min a (min b c) ≤ c := le_trans (min_le_right _ _) (min_le_right _ _)
  have M2 : b ≤ max a (max b c) := le_trans (le_max_left _ _) (le_max_right _ _)
  have M3 : c ≤ max a (max b c) := le_trans (le_max_right _ _) (le_max_right _ _)
  -- the point is `(1 - u - v) a + u b + v c`; bound each term
  constructor
  · linarith [mul_le_mul_of_nonneg_left (min_le_left a (min b c)) hw, mul_le_mul_of_nonneg_left m2 hu,
      mul_le_mul_of_nonneg_left m3 hv]
  · linarith [mul_le_mul_of_nonneg_left (le_max_left a (max b c)) hw, mul_le_mul_of_nonneg_left M2 hu,
      mul_le_mul_of_nonneg_left M3 hv]

theorem fromBary_inBox (t : Tri) (u v : Rat) (hu : 0 ≤ u) (hv : 0 ≤ v) (huv : u + v ≤ 1) :
    inBox (fromBary t (u, v)) (triBox t) := by
  obtain ⟨⟨ax, ay, az⟩, ⟨bx, b_y, bz⟩, ⟨cx, cy, cz⟩⟩ := t
  have hx := conv3_bounds ax bx cx u v hu hv huv
  have hy := conv3_bounds ay b_y cy u v hu hv huv
  have hz := conv3_bounds az bz cz u v hu hv huv
  simp only [inBox, fromBary, triBox, add, smul, sub, pmin, pmax]
  exact ⟨hx.1, hx.2, hy.1, hy.2, hz.1, hz.2⟩

/-- the step of the fold in `treeBounds`: a box made to hold the box of one more triangle -/
def grow (b : Box) (t : Tri) : Box := (pmin b.1 (triBox t).1, pmax b.2 (triBox t).2)

theorem treeBounds_cons (t : Tri) (ts : List Tri) : treeBounds (t :: ts) = ts.foldl grow (triBox t) := rfl

theorem inBox_grow_left {p : P} {b : Box} (t : Tri) (h : inBox p b) : inBox p (grow b t) :=
  ⟨le_trans (min_le_left _ _) h.1, le_trans h.2.1 (le_max_left _ _), le_trans (min_le_left _ _) h.2.2.1,
    le_trans h.2.2.2.1 (le_max_left _ _), le_trans (min_le_left _ _) h.2.2.2.2.1,
    le_trans h.2.2.2.2.2 (le_max_left _ _)⟩

theorem inBox_grow_right {p : P} (b : Box) {t : Tri} (h : inBox p (triBox t)) : inBox p (grow b t) :=
  ⟨le_trans (min_le_right _ _) h.1, le_trans h.2.1 (le_max_right _ _), le_trans (min_le_right _ _) h.2.2.1,
    le_trans h.2.2.2.1 (le_max_right _ _), le_trans (min_le_right _ _) h.2.2.2.2.1,
    le_trans h.2.2.2.2.2 (le_max_right _ _)⟩

theorem inBox_foldl_grow (p : P) (ts : List Tri) : ∀ b : Box, (inBox p b → inBox p (ts.foldl grow b)) ∧
    ∀ t ∈ ts, inBox p (triBox t) → inBox p (ts.foldl grow b) := by
  induction ts with
  | nil => intro b; exact ⟨id, by simp⟩
  | cons x xs ih =>
    intro b
    obtain ⟨h1, h2⟩ := ih (grow b x)
    refine ⟨fun h => h1 (inBox_grow_left x h), fun t ht h => ?_⟩
    rcases List.mem_cons.mp ht with rfl | ht
    · exact h1 (inBox_grow_right b h)
    · exact h2 t ht h

theorem inBox_treeBounds {p : P} {ts : List Tri} {t : Tri} (ht : t ∈ ts) (h : inBox p (triBox t)) :
    inBox p (treeBounds ts) := by
  cases ts with
  | nil => simp at ht
  | cons x xs =>
    rw [treeBounds_cons]
    have := inBox_foldl_grow p xs (triBox x)
    rcases List.mem_cons.mp ht with rfl | ht
    · exact this.1 h
    · exact this.2 t ht h

theorem inBox_get {p : P} {b : Box} (h : inBox p b) (k : Nat) : get b.1 k ≤ get p k ∧ get p k ≤ get b.2 k := by
  unfold inBox at h
  unfold get
  split
  · exact ⟨h.1, h.2.1⟩
  · exact ⟨h.2.2.1, h.2.2.2.1⟩
  · exact ⟨h.2.2.2.2.1, h.2.2.2.2.2⟩

theorem boxesMeet_of_common {p : P} {a b : Box} (ha : inBox p a) (hb : inBox p b) : boxesMeet a b = true := by
  unfold inBox at *
  unfold boxesMeet
  obtain ⟨a1, a2, a3, a4, a5, a6⟩ := ha
  obtain ⟨b1, b2, b3, b4, b5, b6⟩ := hb
  simp only [decide_eq_true_eq]
  exact ⟨le_trans a1 b2, le_trans b1 a2, le_trans a3 b4, le_trans b3 a4, le_trans a5 b6, le_trans b5 a6⟩

theorem filterMap_filter_of_imp {α β : Type} (f : α → Option β) (p : α → Bool) :
    ∀ l : List α, (∀ x ∈ l, f x ≠ none → p x = true) → (l.filter p).filterMap f = l.filterMap f
  | [], _ => rfl
  | x :: xs, h => by
    have ih := filterMap_filter_of_imp f p xs (fun y hy => h y (List.mem_cons_of_mem _ hy))
    by_cases hp : p x = true
    · rw [List.filter_cons_of_pos hp, List.filterMap_cons, List.filterMap_cons, ih]
    · have hf : f x = none := by
        by_contra hne
        exact hp (h x List.mem_cons_self hne)
      simp [hp, hf, ih]

/-! ### proximity: `nearby_faces` -/

theorem sq_bound {a b r : Rat} (hr : 0 ≤ r) (h : (a - b) * (a - b) ≤ r * r) : a - r ≤ b ∧ b ≤ a + r :=
  have := abs_le_of_sq_le_sq' (by simpa [sq] using h) hr
  ⟨sub_le_comm.1 this.2, neg_le_sub_iff_le_add.1 this.1⟩

theorem inBox_cube (p q : P) (r : Rat) (hr : 0 ≤ r) (h : dist2 p q ≤ r * r) :
    inBox q (sub p (r, r, r), add p (r, r, r)) := by
  obtain ⟨px, py, pz⟩ := p
  obtain ⟨qx, qy, qz⟩ := q
  simp only [dist2, dot, sub] at h
  have hx := sq_bound hr (a := px) (b := qx) (by linarith [mul_self_nonneg (py - qy), mul_self_nonneg (pz - qz)])
  have hy := sq_bound hr (a := py) (b := qy) (by linarith [mul_self_nonneg (px - qx), mul_self_nonneg (pz - qz)])
  have hz := sq_bound hr (a := pz) (b := qz) (by linarith [mul_self_nonneg (px - qx), mul_self_nonneg (py - qy)])
  exact ⟨hx.1, hx.2, hy.1, hy.2, hz.1, hz.2⟩

end TV.Query
