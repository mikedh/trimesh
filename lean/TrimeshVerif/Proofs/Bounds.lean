/-
C16: each Bool checker of Model/Bounds.lean is `true` exactly when a conjunction of plain (in)equalities holds (the
`*_iff` lemmas), and the geometry the soundness theorems of Props/C16.lean add to that: the height over a face plane is
affine along a segment and `h ≤ √E`, written `h ≤ 0 ∨ h² ≤ E`, survives convex combinations; rows with orthonormal dot
products preserve the norm (Cramer and Binet–Cauchy, no determinant assumed); a weighted mean of support points bounds
any enclosing ball from below; a vector splits along an axis with Pythagoras.
-/
import TrimeshVerif.Model.Bounds
import TrimeshVerif.Proofs.Vec3
import Mathlib.Tactic.Ring
import Mathlib.Tactic.Linarith
import Mathlib.Tactic.LinearCombination
import Mathlib.Tactic.FieldSimp
import Mathlib.Algebra.Order.Field.Rat
namespace TV.Bounds
open TV.Query

/-! ### planes, heights, convexity -/
theorem height_lerp (t : Tri) (p q : P) (s : Rat) :
    height t (lerp p q s) = (1 - s) * height t p + s * height t q := by
  simp only [height, lerp, dot_sub_right, dot_add_right, dot_smul_right]
  ring

theorem below_iff (eps : Rat) (t : Tri) (p : P) :
    below eps t p = true ↔
      (height t p ≤ 0 ∨ height t p * height t p ≤ eps * eps * dot (normal t) (normal t)) := by
  simp [below]

/-- `x ≤ 0 ∨ x² ≤ E` says `x ≤ √E`: it passes to anything smaller -/
theorem nonpos_or_sq_le_of_le {x y E : Rat} (hxy : x ≤ y) (hy : y ≤ 0 ∨ y * y ≤ E) : x ≤ 0 ∨ x * x ≤ E := by
  rcases le_or_gt x 0 with hx | hx
  · exact Or.inl hx
  · exact Or.inr (hy.elim (fun h => absurd (lt_of_lt_of_le hx hxy) (not_lt.2 h))
      (le_trans (mul_self_le_mul_self hx.le hxy)))

/-- a convex combination is at most the larger of the two -/
theorem nonpos_or_sq_le_convex (a b s E : Rat) (hs0 : 0 ≤ s) (hs1 : s ≤ 1)
    (ha : a ≤ 0 ∨ a * a ≤ E) (hb : b ≤ 0 ∨ b * b ≤ E) :
    (1 - s) * a + s * b ≤ 0 ∨ ((1 - s) * a + s * b) * ((1 - s) * a + s * b) ≤ E := by
  rcases le_total a b with h | h
  · exact nonpos_or_sq_le_of_le (by linarith [mul_le_mul_of_nonneg_left h (sub_nonneg.2 hs1)]) hb
  · exact nonpos_or_sq_le_of_le (by linarith [mul_le_mul_of_nonneg_left h hs0]) ha

/-! ### Bool checkers unfolded -/
theorem hullCheck_iff (eps : Rat) (pts hv : List P) (hf : List Face) (ts : List Tri)
    (ht : trisOf hv hf = some ts) :
    hullCheck eps pts hv hf = true ↔
      ((∀ v ∈ hv, v ∈ pts) ∧ (∀ t ∈ ts, ∀ p ∈ pts, below eps t p = true) ∧
       TV.Topology.isWatertight hf = true ∧ TV.Topology.isWindingConsistent hf = true ∧
       0 < vol6 ts) := by
  simp only [hullCheck, ht, Bool.and_eq_true, List.all_eq_true, decide_eq_true_eq,
    List.contains_iff_mem, and_assoc]

theorem leP_iff (a b : P) : leP a b = true ↔ (a.1 ≤ b.1 ∧ a.2.1 ≤ b.2.1 ∧ a.2.2 ≤ b.2.2) := by
  simp only [leP, Bool.and_eq_true, decide_eq_true_eq, and_assoc]

theorem aabbCheck_iff (pts : List P) (lo hi : P) :
    aabbCheck pts lo hi = true ↔
    ((∀ p ∈ pts, lo.1 ≤ p.1 ∧ lo.2.1 ≤ p.2.1 ∧ lo.2.2 ≤ p.2.2 ∧ p.1 ≤ hi.1 ∧ p.2.1 ≤ hi.2.1 ∧ p.2.2 ≤ hi.2.2) ∧
    (∃ p ∈ pts, p.1 = lo.1) ∧ (∃ p ∈ pts, p.2.1 = lo.2.1) ∧ (∃ p ∈ pts, p.2.2 = lo.2.2) ∧
    (∃ p ∈ pts, p.1 = hi.1) ∧ (∃ p ∈ pts, p.2.1 = hi.2.1) ∧ (∃ p ∈ pts, p.2.2 = hi.2.2)) := by
  simp only [aabbCheck, Bool.and_eq_true, List.all_eq_true, List.any_eq_true, leP_iff,
    beq_iff_eq, and_assoc]

theorem inBox_iff (eps : Rat) (ext q : P) : inBox eps ext q = true ↔
    (absR q.1 ≤ ext.1 / 2 + eps ∧ absR q.2.1 ≤ ext.2.1 / 2 + eps ∧ absR q.2.2 ≤ ext.2.2 / 2 + eps) := by
  simp only [inBox, Bool.and_eq_true, decide_eq_true_eq, and_assoc]

/-! ### rigid transforms -/

/-- Cramer: `det [a;b;c] • w` from the three products `a·w, b·w, c·w` -/
theorem cramer (a b c w : P) :
    smul (dot a (cross b c)) w =
      add (add (smul (dot a w) (cross b c)) (smul (dot b w) (cross c a))) (smul (dot c w) (cross a b)) := by
  obtain ⟨a1, a2, a3⟩ := a
  obtain ⟨b1, b2, b3⟩ := b
  obtain ⟨c1, c2, c3⟩ := c
  obtain ⟨w1, w2, w3⟩ := w
  simp only [dot, cross, smul, add, Prod.mk.injEq]
  refine ⟨?_, ?_, ?_⟩ <;> ring

/-- orthonormal rows preserve the norm: by Cramer `det • v` is the combination of the cross products of the rows
    with the coefficients `a·v, b·v, c·v`; those cross products are orthonormal again (Binet–Cauchy), so
    `det² |v|²` is the sum of the squared coefficients; at `v = a` this reads `det² = 1` -/
theorem ortho_norm (a b c : P) (h00 : dot a a = 1) (h11 : dot b b = 1) (h22 : dot c c = 1)
    (h01 : dot a b = 0) (h02 : dot a c = 0) (h12 : dot b c = 0) (v : P) :
    dot a v * dot a v + dot b v * dot b v + dot c v * dot c v = dot v v := by
  have key : ∀ v : P, dot a (cross b c) * dot a (cross b c) * dot v v =
      dot a v * dot a v + dot b v * dot b v + dot c v * dot c v := fun v => by
    have h := congrArg (fun x => dot x x) (cramer a b c v)
    simp only [dot_add_left, dot_add_right, dot_smul_left, dot_smul_right, dot_cross_cross,
      dot_comm b a, dot_comm c a, dot_comm c b, h00, h11, h22, h01, h02, h12] at h
    linear_combination h
  have hdet := key a
  rw [dot_comm b a, dot_comm c a, h00, h01, h02] at hdet
  linear_combination (dot v v) * hdet - key v

theorem rigid_dist2 (T : Rigid) (p q : P) :
    dist2 (T.apply p) (T.apply q) =
      dot T.r0 (sub p q) * dot T.r0 (sub p q) + dot T.r1 (sub p q) * dot T.r1 (sub p q)
        + dot T.r2 (sub p q) * dot T.r2 (sub p q) := by
  -- by linearity of the three products; the translation cancels
  simp only [dot_sub_right]
  simp only [dist2, Rigid.apply, sub, add, dot, add_sub_add_right_eq_sub]

/-! ### sphere minimality -/

theorem dist2_shift (q c c' : P) :
    dist2 q c' = dist2 q c + 2 * (dot q (sub c c') - dot c (sub c c')) + dot (sub c c') (sub c c') := by
  simp only [dist2, dot_sub_right, dot_sub_left, dot_comm c q, dot_comm c' q, dot_comm c' c]
  ring

theorem wsum_dot_le (x : P) (B : Rat) :
    ∀ (ws : List Rat) (qs : List P) (acc : P), (∀ w ∈ ws, 0 ≤ w) → (∀ q ∈ qs, dot q x ≤ B) →
      ws.length = qs.length →
      dot ((List.zipWith (fun w q => smul w q) ws qs).foldl add acc) x ≤ dot acc x + ws.sum * B := by
  intro ws
  induction ws with
  | nil => intro qs acc _ _ _; simp
  | cons w ws ih =>
    intro qs acc hw hq hlen
    cases qs with
    | nil => simp at hlen
    | cons q qs =>
      rw [List.forall_mem_cons] at hw hq
      have ih' := ih qs (add acc (smul w q)) hw.2 hq.2 (Nat.succ.inj hlen)
      rw [dot_add_left, dot_smul_left] at ih'
      simp only [List.zipWith_cons_cons, List.foldl_cons, List.sum_cons]
      linarith [mul_le_mul_of_nonneg_left hq.1 hw.1]

/-- `0 ≤ |e + x|²` expanded -/
theorem neg_dot_self_le (e x : P) : - dot e e ≤ 2 * dot e x + dot x x := by
  have h := dot_self_nonneg (add e x)
  rw [dot_add_left, dot_add_right, dot_add_right, dot_comm x e] at h
  linarith

/-! ### cylinder -/
/-- `v` splits into `lam • a` and a part orthogonal to `a`, with Pythagoras, as soon as `v·a = lam (a·a)` -/
theorem cyl_split (v a : P) (lam : Rat) (hl : dot v a = lam * dot a a) :
    v = add (sub v (smul lam a)) (smul lam a) ∧ dot (sub v (smul lam a)) a = 0 ∧
    dot (sub v (smul lam a)) (sub v (smul lam a)) = dot v v - lam * lam * dot a a := by
  refine ⟨?_, ?_, ?_⟩
  · simp only [add, sub, smul, sub_add_cancel]
  · rw [dot_sub_left, dot_smul_left, hl]; ring
  · simp only [dot_sub_left, dot_sub_right, dot_smul_left, dot_smul_right, dot_comm a v, hl]
    ring

end TV.Bounds
