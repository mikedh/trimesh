/-
C08 / C20, byte-level codecs: little-endian words; cutting a concatenation of equal-length blocks back into the blocks
(`chunks_flatMap`); and on these the STL record and file, the GLB framing, buffer views, delimiter-separated text
rows and base64.
-/
import TrimeshVerif.Model.Codec
import TrimeshVerif.Proofs.ListAux
namespace TV.Codec

theorem de32_le32 (n : Nat) (h : n < 4294967296) : de32 (le32 n) = n := by
  simp [de32, le32]; omega

theorem le32_length (n : Nat) : (le32 n).length = 4 := rfl

theorem de16_le16 (n : Nat) (h : n < 65536) : de16 (le16 n) = n := by
  simp [de16, le16]; omega

theorem de32_le32_append (n : Nat) (h : n < 4294967296) (rest : Bytes) :
    de32 ((le32 n ++ rest).take 4) = n := by
  have : (le32 n ++ rest).take 4 = le32 n := by simp [le32]
  rw [this, de32_le32 n h]

theorem map_map_cancel {α β : Type} (f : α → β) (g : β → α) (l : List α) (h : ∀ x ∈ l, g (f x) = x) :
    (l.map f).map g = l := by
  rw [List.map_map]
  exact (List.map_congr_left h).trans (List.map_id l)

theorem chunksAux_nil {α : Type} (n fuel : Nat) : chunksAux n fuel ([] : List α) = [] := by
  cases fuel <;> rfl

theorem chunksAux_append {α : Type} (n : Nat) (hn : 0 < n) (r rest : List α) (hr : r.length = n) (fuel : Nat) :
    chunksAux n (fuel + 1) (r ++ rest) = r :: chunksAux n fuel rest := by
  cases r with
  | nil => simp at hr; omega
  | cons a r =>
    simp only [List.cons_append, chunksAux]
    rw [← List.cons_append, List.take_left' hr, List.drop_left' hr]

theorem chunksAux_flatMap {α β : Type} (n : Nat) (hn : 0 < n) (g : β → List α) (l : List β)
    (h : ∀ x ∈ l, (g x).length = n) (fuel : Nat) (hf : l.length ≤ fuel) :
    chunksAux n fuel (l.flatMap g) = l.map g := by
  induction l generalizing fuel with
  | nil => simp [chunksAux_nil]
  | cons x l ih =>
    cases fuel with
    | zero => simp at hf
    | succ fuel =>
      rw [List.flatMap_cons, chunksAux_append n hn _ _ (h x List.mem_cons_self), List.map_cons,
        ih (fun y hy => h y (List.mem_cons_of_mem _ hy)) fuel (Nat.le_of_succ_le_succ hf)]

theorem chunks_flatMap {α β : Type} (n : Nat) (hn : 0 < n) (g : β → List α) (l : List β)
    (h : ∀ x ∈ l, (g x).length = n) : chunks n (l.flatMap g) = l.map g := by
  unfold chunks
  apply chunksAux_flatMap n hn g l h
  rw [length_flatMap_const g l h]
  exact Nat.le_mul_of_pos_left _ hn

theorem chunks_flatten {α : Type} (n : Nat) (hn : 0 < n) (recs : List (List α)) (h : ∀ r ∈ recs, r.length = n) :
    chunks n recs.flatten = recs := by
  rw [← List.flatMap_id, chunks_flatMap n hn id recs h, List.map_id]

theorem flatten_length_const {α : Type} (n : Nat) (recs : List (List α)) (h : ∀ r ∈ recs, r.length = n) :
    recs.flatten.length = recs.length * n := by
  rw [← List.flatMap_id, length_flatMap_const id recs h, Nat.mul_comm]

/-- one unit of fuel per piece is enough -/
theorem chunksAux_length {α : Type} (n : Nat) (hn : 0 < n) : ∀ (k : Nat) (l : List α) (fuel : Nat),
    l.length = n * k → k ≤ fuel → (chunksAux n fuel l).length = k
  | 0, l, fuel, hl, _ => by rw [List.eq_nil_of_length_eq_zero hl, chunksAux_nil]; rfl
  | k + 1, l, fuel + 1, hl, hf => by
    have hn' : n ≤ l.length := hl ▸ Nat.le_mul_of_pos_right n k.succ_pos
    rw [← List.take_append_drop n l, chunksAux_append n hn _ _ (List.length_take_of_le hn'), List.length_cons,
      chunksAux_length n hn k _ fuel (by rw [List.length_drop, hl, Nat.mul_succ, Nat.add_sub_cancel])
        (Nat.le_of_succ_le_succ hf)]

theorem chunks_length {α : Type} (n : Nat) (hn : 0 < n) (k : Nat) (l : List α) (hl : l.length = n * k) :
    (chunks n l).length = k :=
  chunksAux_length n hn k l _ hl (hl ▸ Nat.le_mul_of_pos_left k hn)

theorem chunks_flatMap_le32 (ws : List Nat) (h : ∀ w ∈ ws, w < 4294967296) :
    (chunks 4 (ws.flatMap le32)).map de32 = ws := by
  rw [chunks_flatMap 4 (by omega) le32 ws (fun _ _ => rfl)]
  exact map_map_cancel le32 de32 ws (fun w hw => de32_le32 w (h w hw))

theorem length_flatMap_le32 (ws : List Nat) : (ws.flatMap le32).length = 4 * ws.length :=
  length_flatMap_const le32 ws (fun _ _ => rfl)

theorem encRec_length (r : StlRec) (h : r.words.length = 12) : (encRec r).length = 50 := by
  rw [encRec, List.length_append, length_flatMap_le32, h]; rfl

theorem decRec_encRec (r : StlRec) (h : r.wf) : decRec (encRec r) = r := by
  obtain ⟨h1, h2, h3⟩ := h
  have hl : (r.words.flatMap le32).length = 48 := by rw [length_flatMap_le32, h1]
  unfold decRec encRec
  rw [List.take_left' hl, List.drop_left' hl, chunks_flatMap_le32 _ h2, de16_le16 _ h3]

theorem encodeStl_length (hdr : Bytes) (recs : List StlRec) (hw : ∀ r ∈ recs, r.wf) :
    (encodeStl hdr recs).length = hdr.length + 4 + 50 * recs.length := by
  rw [encodeStl, List.length_append, List.length_append,
    length_flatMap_const encRec recs (fun r hr => encRec_length r (hw r hr).1)]
  rfl

/-- an accepted binary STL has exactly the length its count field announces; `C08_stl_accepts_length` is this
    statement, `C20_stl_alloc` its first half -/
theorem decodeStl_accepts (b hdr : Bytes) (recs : List StlRec) :
    decodeStl b = .ok (hdr, recs) → b.length = 84 + 50 * recs.length ∧ hdr = b.take 80 := by
  fun_cases decodeStl b
  -- both guards passed: `h2` says the data length is `50 * n` for the announced count `n`
  case case3 h1 n h2 =>
    rintro ⟨⟩
    rw [List.length_map, chunks_length 50 (by omega) n _ (by rw [List.length_drop]; omega)]
    exact ⟨by omega, rfl⟩
  -- the other two branches are errors
  all_goals nofun

theorem padJson_length (j : Bytes) : (padJson j).length = j.length + (4 - (j.length + 20) % 4) := by
  simp [padJson]

/-- a buffer that starts with five little-endian words: `le32` is a literal four-byte list, so reading the words
    back at their offsets is evaluation -/
theorem frame5 (w0 w1 w2 w3 w4 : Nat) (rest : Bytes) :
    let b := le32 w0 ++ (le32 w1 ++ (le32 w2 ++ (le32 w3 ++ (le32 w4 ++ rest))))
    b.take 4 = le32 w0 ∧ (b.drop 4).take 4 = le32 w1 ∧ (b.drop 8).take 4 = le32 w2 ∧
    (b.drop 12).take 4 = le32 w3 ∧ (b.drop 16).take 4 = le32 w4 ∧ b.drop 20 = rest ∧ b.length = rest.length + 20 :=
  ⟨rfl, rfl, rfl, rfl, rfl, rfl, rfl⟩

theorem binChunks_single (bin : Bytes) (hb : bin.length < 4294967296) (fuel length : Nat) (hl : 8 + bin.length < length) :
    binChunks (fuel + 1) (le32 bin.length ++ (le32 magicBin ++ bin)) 0 length = .ok [bin] := by
  -- the chunk header is two literal four-byte lists: reading it back is evaluation
  obtain ⟨buf, hbuf, e1, e2, e3, el⟩ : ∃ buf, le32 bin.length ++ (le32 magicBin ++ bin) = buf ∧
      buf.take 4 = le32 bin.length ∧ (buf.drop 4).take 4 = le32 magicBin ∧ buf.drop 8 = bin ∧
      buf.length = bin.length + 8 :=
    ⟨_, rfl, rfl, rfl, rfl, rfl⟩
  -- the loop goes on (`hl`), the header is there, the chunk is binary and fits; behind it nothing is left
  rw [hbuf, binChunks, if_neg (by omega), if_neg (by omega)]
  dsimp only
  rw [e1, de32_le32 _ hb, e2, de32_le32 magicBin (by decide), if_neg (fun h => h rfl), ← List.drop_drop, e3,
    if_neg (Nat.lt_irrefl _), List.drop_length, List.take_length]
  cases fuel with
  | zero => rfl
  | succ f => rw [binChunks, if_neg (by omega)]; rfl

/-- `load_glb` on a well-formed header followed by the JSON chunk `c`: every guard passes, and the binary chunks are
    what the chunk loop makes of the `rest` -/
theorem decodeGlb_frame (total : Nat) (c rest : Bytes) (cs : List Bytes) (hc : c.length < 4294967296)
    (ht : total < 4294967296) (h : binChunks rest.length rest 0 total = .ok cs) :
    decodeGlb (le32 magicGltf ++ (le32 2 ++ (le32 total ++ (le32 c.length ++ (le32 magicJson ++ (c ++ rest))))))
      = .ok (c, cs) := by
  obtain ⟨f1, f2, f3, f4, f5, f6, fl⟩ := frame5 magicGltf 2 total c.length magicJson (c ++ rest)
  unfold decodeGlb
  -- the guards in source order: 20 bytes of header, magic, version ...
  rw [if_neg (by rw [fl]; omega), f1, de32_le32 magicGltf (by decide), if_neg (fun h => h rfl),
    f2, de32_le32 2 (by decide), if_neg (fun h => h rfl)]
  dsimp only
  -- ... type of the first chunk, and that it fits; then `c` is cut off and the loop runs on `rest`
  rw [f3, de32_le32 _ ht, f4, de32_le32 _ hc, f5, de32_le32 magicJson (by decide), if_neg (fun h => h rfl),
    ← List.drop_drop, f6, if_neg (by rw [List.length_append]; omega), List.take_left, List.drop_left, h]

/-- view `i` starts where the items before it end and is as long as item `i` -/
theorem viewsAux_getElem? (pos : Nat) (items : List Bytes) (i : Nat) :
    (viewsAux pos items)[i]? = items[i]?.map (fun it => (pos + (items.take i).flatten.length, it.length)) := by
  fun_induction viewsAux pos items generalizing i with
  | case1 => rfl
  | case2 pos it rest ih =>
    cases i with
    | zero => rfl
    | succ i => simp [ih, Nat.add_assoc]

theorem viewsAux_aligned (items : List Bytes) (h : ∀ it ∈ items, it.length % 4 = 0) (pos : Nat) (hp : pos % 4 = 0) :
    ∀ v ∈ viewsAux pos items, v.1 % 4 = 0 := by
  fun_induction viewsAux pos items with
  | case1 => nofun
  | case2 pos it rest ih =>
    rw [List.forall_mem_cons] at h ⊢
    exact ⟨hp, ih h.2 (by have := h.1; omega)⟩

theorem splitAt_ne_nil (d : Char) (s : List Char) : splitAt d s ≠ [] := by
  -- every branch returns a cons
  fun_cases splitAt d s <;> nofun

theorem splitAt_cons (d c : Char) (s : List Char) (t : Tok) (ts : List Tok) (h : splitAt d s = t :: ts) :
    splitAt d (c :: s) = if c = d then [] :: t :: ts else (c :: t) :: ts := by
  rw [splitAt, h]

theorem splitAt_append (d : Char) (t : Tok) (h : d ∉ t) {s : List Char} {u : Tok} {us : List Tok}
    (hs : splitAt d s = u :: us) : splitAt d (t ++ s) = (t ++ u) :: us := by
  induction t with
  | nil => exact hs
  | cons c t ih =>
    rw [List.mem_cons, not_or] at h
    rw [List.cons_append, splitAt_cons d c _ _ _ (ih h.2), if_neg (Ne.symm h.1)]
    rfl

theorem splitAt_joinWith (d : Char) (ts : List Tok) (hne : ts ≠ []) (h : ∀ t ∈ ts, d ∉ t) :
    splitAt d (joinWith d ts) = ts := by
  fun_induction joinWith d ts with
  | case1 => exact absurd rfl hne
  | case2 t => simpa using splitAt_append d t (h t List.mem_cons_self) (s := []) rfl
  | case3 t rest hr ih =>
    rw [List.forall_mem_cons] at h
    obtain ⟨u, us, rfl⟩ := List.exists_cons_of_ne_nil hr
    rw [splitAt_append d t h.1 ((splitAt_cons d d _ _ _ (ih hr h.2)).trans (if_pos rfl)), List.append_nil]

theorem notMem_joinWith (col row : Char) (hcr : col ≠ row) (ts : List Tok) (h : ∀ t ∈ ts, row ∉ t) :
    row ∉ joinWith col ts := by
  fun_induction joinWith col ts with
  | case1 => nofun
  | case2 t => exact h t List.mem_cons_self
  | case3 t rest _ ih =>
    rw [List.forall_mem_cons] at h
    simp only [List.mem_append, List.mem_cons, not_or]
    exact ⟨h.1, fun e => hcr e.symm, ih h.2⟩

/- The patterns of `b64dec` overlap (`[w, x, 64, 64]`, `[w, x, y, 64]`, then the general quadruple), so the equation
   of a later pattern carries the side conditions that the earlier ones do not match; `rw [b64dec]` leaves them as goals,
   and `hz`, `hy` refute them. -/
theorem b64dec_quad (w x y z : Nat) (rest : List Nat) (hz : z ≠ 64) :
    b64dec (w :: x :: y :: z :: rest) =
      (w * 4 + x / 16) :: (x % 16 * 16 + y / 4) :: (y % 4 * 64 + z) :: b64dec rest := by
  rw [b64dec]
  · intros; simp_all
  · intros; simp_all

theorem b64dec_pad1 (w x y : Nat) (hy : y ≠ 64) :
    b64dec [w, x, y, 64] = [w * 4 + x / 16, x % 16 * 16 + y / 4] := by
  rw [b64dec]
  intros; simp_all

/-- three bytes are the four sextets `b64enc` makes of them, read back as `b64dec` does -/
theorem b64_group (a b c : Nat) (hb : b < 256) (hc : c < 256) :
    a / 4 * 4 + (a % 4 * 16 + b / 16) / 16 = a ∧
    (a % 4 * 16 + b / 16) % 16 * 16 + (b % 16 * 4 + c / 64) / 4 = b ∧
    (b % 16 * 4 + c / 64) % 4 * 64 + c % 64 = c := by
  obtain ⟨x1, x2⟩ := div_mod_of_lt 16 (a % 4) (b / 16) (Nat.div_lt_of_lt_mul hb)
  obtain ⟨y1, y2⟩ := div_mod_of_lt 4 (b % 16) (c / 64) (Nat.div_lt_of_lt_mul hc)
  rw [x1, x2, y1, y2]
  exact ⟨Nat.div_add_mod' a 4, Nat.div_add_mod' b 16, Nat.div_add_mod' c 64⟩

end TV.Codec
