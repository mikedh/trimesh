/-
C14: the area swept by a polyline (`openSum`) is a sum over its directed segments (`openSum_eq_sum_segs`).  From that:
it is negated by reversal, additive over pieces chained end to start, and under an affine map multiplied by the
determinant up to a boundary term that telescopes along the polyline (`affB`, `openSum_map_apply`).  For arcs: the
three-point centre is a weighted mean of the control points whose weights make it equidistant from them.
-/
import TrimeshVerif.Model.Path
import Mathlib.Tactic.Ring
import Mathlib.Tactic.Linarith
import Mathlib.Tactic.LinearCombination
import Mathlib.Algebra.Order.Field.Rat
import Mathlib.Algebra.BigOperators.Group.List.Basic
namespace TV.Path

/-! ### segments -/

@[simp] theorem segs_nil : segs [] = [] := rfl
@[simp] theorem segs_single (a : P2) : segs [a] = [] := rfl
@[simp] theorem segs_cons_cons (a b : P2) (l : List P2) : segs (a :: b :: l) = (a, b) :: segs (b :: l) := rfl
@[simp] theorem openSum_nil : openSum [] = 0 := rfl
@[simp] theorem openSum_single (a : P2) : openSum [a] = 0 := rfl
@[simp] theorem openSum_cons_cons (a b : P2) (l : List P2) :
    openSum (a :: b :: l) = cross2 a b + openSum (b :: l) := rfl

theorem openSum_eq_sum_segs (l : List P2) : openSum l = ((segs l).map (fun s => cross2 s.1 s.2)).sum := by
  fun_induction segs l with
  | case1 a b rest ih => exact congrArg (cross2 a b + ·) ih
  | case2 l h => exact openSum.eq_2 l h

theorem segs_append_cons : ∀ (l1 : List P2) (a : P2) (l2 : List P2),
    segs (l1 ++ a :: l2) = segs (l1 ++ [a]) ++ segs (a :: l2)
  | [], _, _ | [_], _, _ => rfl
  | x :: y :: l1, a, l2 => congrArg ((x, y) :: ·) (segs_append_cons (y :: l1) a l2)

theorem segs_reverse : ∀ l : List P2, segs l.reverse = ((segs l).map Prod.swap).reverse
  | [] | [_] => rfl
  | a :: b :: l => by
    rw [List.reverse_cons, List.reverse_cons, List.append_assoc, List.cons_append, List.nil_append,
      segs_append_cons, ← List.reverse_cons, segs_reverse (b :: l)]
    exact List.reverse_cons.symm

theorem cross2_swap (a b : P2) : cross2 b a = - cross2 a b := by
  simp only [cross2]; ring

theorem openSum_reverse (l : List P2) : openSum l.reverse = - openSum l := by
  rw [openSum_eq_sum_segs, openSum_eq_sum_segs, segs_reverse, List.map_reverse, List.sum_reverse, List.map_map,
    List.sum_neg, List.map_map]
  exact congrArg List.sum (List.map_congr_left fun s _ => cross2_swap s.1 s.2)

theorem sqLen_comm (a b : P2) : sqLen a b = sqLen b a := by
  simp only [sqLen]; ring

/-! ### chaining -/

/-- a piece that starts where the previous one ended adds its swept area -/
theorem openSum_append_tail (l1 l2 : List P2) (h1 : l1 ≠ []) (h : l1.getLast? = l2.head?) :
    openSum (l1 ++ l2.tail) = openSum l1 + openSum l2 := by
  cases l2 with
  | nil => exact absurd (List.getLast?_eq_none_iff.1 h) h1
  | cons a rest =>
    obtain ⟨ys, rfl⟩ := List.getLast?_eq_some_iff.1 h
    simp only [openSum_eq_sum_segs, List.tail_cons, List.append_assoc, List.cons_append, List.nil_append,
      segs_append_cons ys a rest, List.map_append, List.sum_append]

theorem chained_cons_cons (p q : List P2) (rest : List (List P2)) :
    chained (p :: q :: rest) = true ↔ p ≠ [] ∧ p.getLast? = q.head? ∧ chained (q :: rest) = true := by
  simp [chained, and_assoc]

theorem head?_joinChain (q : List P2) (rest : List (List P2)) (h : chained (q :: rest) = true) :
    (joinChain (q :: rest)).head? = q.head? := by
  cases rest with
  | nil => rfl
  | cons r rest => exact List.head?_append_of_ne_nil _ ((chained_cons_cons q r rest).1 h).1

theorem openSum_orient (e : List P2 × Bool) :
    openSum (orient e) = if e.2 then - openSum e.1 else openSum e.1 := by
  unfold orient
  split <;> simp [openSum_reverse]

/-! ### affine maps -/

/-- boundary term that telescopes along a polyline -/
def affB (A : M2) (t : P2) (p : P2) : Rat :=
  t.1 * (A.2.1 * p.1 + A.2.2 * p.2) - t.2 * (A.1.1 * p.1 + A.1.2 * p.2)

theorem cross2_apply (A : M2) (t p q : P2) :
    cross2 (apply A t p) (apply A t q) = det2 A * cross2 p q + affB A t q - affB A t p := by
  obtain ⟨⟨a11, a12⟩, ⟨a21, a22⟩⟩ := A
  obtain ⟨t1, t2⟩ := t
  obtain ⟨p1, p2⟩ := p
  obtain ⟨q1, q2⟩ := q
  simp only [cross2, apply, det2, affB]
  ring

theorem openSum_map_apply (A : M2) (t : P2) (a : P2) (l : List P2) :
    openSum ((a :: l).map (apply A t)) = det2 A * openSum (a :: l) + affB A t (l.getLastD a) - affB A t a := by
  induction l generalizing a with
  | nil => simp
  | cons b l ih =>
    have := ih b
    simp only [List.map_cons] at this
    simp only [List.map_cons, openSum_cons_cons, this, cross2_apply, List.getLastD_cons]
    ring

theorem isClosed_cons (a : P2) (l : List P2) : isClosed (a :: l) = (a == l.getLastD a) := by
  rw [isClosed, List.head?_cons, List.getLast?_cons, ← List.getLastD_eq_getLast?]

/-! ### arcs -/

/-- the three weights of `arcCenter` add up to `4 · cross²`, sixteen times the squared area of the control triangle: the
    centre is undefined exactly for collinear control points -/
theorem arc_weight_sum (p0 p1 p2 : P2) :
    sqLen p2 p1 * (sqLen p0 p2 + sqLen p1 p0 - sqLen p2 p1)
      + sqLen p0 p2 * (sqLen p2 p1 + sqLen p1 p0 - sqLen p0 p2)
      + sqLen p1 p0 * (sqLen p2 p1 + sqLen p0 p2 - sqLen p1 p0)
    = 4 * (cross2 (sub2 p1 p0) (sub2 p2 p0)) * (cross2 (sub2 p1 p0) (sub2 p2 p0)) := by
  obtain ⟨x0, y0⟩ := p0
  obtain ⟨x1, y1⟩ := p1
  obtain ⟨x2, y2⟩ := p2
  simp only [sqLen, cross2, sub2]
  ring

/-- a weighted mean `o` of three points (`hx`, `hy`; `s = w0 + w1 + w2`) is equidistant from them as soon as the weights
    satisfy two linear relations with the squared side lengths.  For any weights `s (|o p0|² − |o p1|²)` is
    `Σ wᵢ (|p0 pᵢ|² − |p1 pᵢ|²) = (w1 − w0) |p1 p0|² + w2 (|p0 p2|² − |p2 p1|²)`, and `h01` says that this vanishes; `h12`
    is the same for `p1`, `p2` -/
theorem equidist_of_weights (p0 p1 p2 o : P2) (w0 w1 w2 : Rat) (hs : w0 + w1 + w2 ≠ 0)
    (hx : o.1 * (w0 + w1 + w2) = w0 * p0.1 + w1 * p1.1 + w2 * p2.1)
    (hy : o.2 * (w0 + w1 + w2) = w0 * p0.2 + w1 * p1.2 + w2 * p2.2)
    (h01 : (w1 - w0) * sqLen p1 p0 + w2 * (sqLen p0 p2 - sqLen p2 p1) = 0)
    (h12 : (w2 - w1) * sqLen p2 p1 + w0 * (sqLen p1 p0 - sqLen p0 p2) = 0) :
    sqLen o p0 = sqLen o p1 ∧ sqLen o p1 = sqLen o p2 := by
  unfold sqLen at *
  constructor <;> apply mul_left_cancel₀ hs
  · linear_combination h01 + (-2 * (p0.1 - p1.1)) * hx + (-2 * (p0.2 - p1.2)) * hy
  · linear_combination h12 + (-2 * (p1.1 - p2.1)) * hx + (-2 * (p1.2 - p2.2)) * hy

/-! ### regions -/

theorem absR_neg (x : Rat) : absR (-x) = absR x := by
  unfold absR
  split <;> split <;> linarith

end TV.Path
