/-
C10 over an ordered field: an instance is a node's world transform with the points of its geometry, its explicit
placement the mapped points (`Instance`, `placed`); axis-aligned bounds are left folds of the componentwise `vmin` /
`vmax` over a non-empty point list (`lower`, `upper`), `nodeLower` / `nodeUpper` the corner as `bounds_corners` computes
it.  The lemmas are what Props/C10.lean needs of the folds: they can be read from the right (`lower_cons`) and split
over a concatenation (`foldl_append_idem`), every coordinate is attained, and a translation commutes with them.
-/
import TrimeshVerif.Proofs.Affine
import Mathlib.Algebra.Order.Field.Basic
import Mathlib.Order.Lattice
import Mathlib.Algebra.Order.Group.MinMax
namespace TV.Scene
open TV.Mat3 TV.Affine

variable {K : Type} [Field K] [LinearOrder K] [IsStrictOrderedRing K]

def vmin (a b : V3 K) : V3 K := (min a.1 b.1, min a.2.1 b.2.1, min a.2.2 b.2.2)
def vmax (a b : V3 K) : V3 K := (max a.1 b.1, max a.2.1 b.2.1, max a.2.2 b.2.2)
/-- componentwise minimum / maximum of a non-empty point list given as head `p` and tail `ps` -/
def lower (p : V3 K) (ps : List (V3 K)) : V3 K := ps.foldl vmin p
def upper (p : V3 K) (ps : List (V3 K)) : V3 K := ps.foldl vmax p

/-- an instance: the world transform `x ↦ L x + t` of a node and the points of its geometry, the non-empty list
    `p0 :: pts`; only the tail is stored, the head `p0` is handed to `nodeLower` / `nodeUpper` separately (a minimum
    needs a first point) -/
structure Instance (K : Type) where
  L : M3 K
  t : V3 K
  pts : List (V3 K)

/-- explicit placement: a copy of the geometry's points at the node's world transform -/
def placed (i : Instance K) : List (V3 K) := i.pts.map (transformPoint i.L i.t)

/-- what `bounds_corners` computes per node: min / max of the rotated points, then the translation added -/
def nodeLower (i : Instance K) (p0 : V3 K) : V3 K := add (lower (i.L.apply p0) (i.pts.map i.L.apply)) i.t
def nodeUpper (i : Instance K) (p0 : V3 K) : V3 K := add (upper (i.L.apply p0) (i.pts.map i.L.apply)) i.t

/-- uniform scaling of a scene by `s`: geometry scaled by `s`, node translations scaled by `s` -/
def scaledUniform (s : K) (i : Instance K) : Instance K :=
  ⟨i.L, smul s i.t, i.pts.map (smul s)⟩

/-- moving every node by the matrix `M` applied at the base frame -/
def transformed (M : M3 K) (m : V3 K) (i : Instance K) : Instance K :=
  ⟨M * i.L, add (M.apply i.t) m, i.pts⟩

-- `vmin_eq_inf` … `upper_cons` need only `min` / `max`, neither `Field K` nor the ordered-ring structure.  They carry the
-- binders of the `variable` line all the same, like every statement about `lower` / `upper`, and the linter would report
-- every one of them
set_option linter.unusedSectionVars false

/-- `vmin` and `vmax` are meet and join of `K × K × K` in its product order, `a ≤ b` there the three inequalities
    between the coordinates: the lattice lemmas hold of them as they stand -/
theorem vmin_eq_inf (a b : V3 K) : vmin a b = a ⊓ b := rfl
theorem vmax_eq_sup (a b : V3 K) : vmax a b = a ⊔ b := rfl

theorem vmin_assoc (a b c : V3 K) : vmin (vmin a b) c = vmin a (vmin b c) := inf_assoc a b c
theorem vmax_assoc (a b c : V3 K) : vmax (vmax a b) c = vmax a (vmax b c) := sup_assoc a b c

/-- folding an associative, commutative, idempotent operation over a concatenation is folding over the parts (the start
    value is used twice) -/
theorem foldl_append_idem {α : Type} (f : α → α → α) (hassoc : ∀ a b c, f (f a b) c = f a (f b c))
    (hcomm : ∀ a b, f a b = f b a) (hidem : ∀ a, f a a = a) (p : α) (ps qs : List α) :
    (ps ++ qs).foldl f p = f (ps.foldl f p) (qs.foldl f p) := by
  have ha : Std.Associative f := ⟨hassoc⟩
  rw [List.foldl_append, ← List.foldl_assoc (op := f), hcomm, ← List.foldl_assoc (op := f), hidem]

theorem lower_nil (p : V3 K) : lower p [] = p := rfl
theorem upper_nil (p : V3 K) : upper p [] = p := rfl

/-- `lower` is a left fold; `vmin` being associative it can be read from the right, the form an induction on the list
    uses (`lower_attained`, `C10_lower_is_bound`) -/
theorem lower_cons (p x : V3 K) (xs : List (V3 K)) : lower p (x :: xs) = vmin p (lower x xs) :=
  List.foldl_assoc (ha := ⟨vmin_assoc⟩)

theorem upper_cons (p x : V3 K) (xs : List (V3 K)) : upper p (x :: xs) = vmax p (upper x xs) :=
  List.foldl_assoc (ha := ⟨vmax_assoc⟩)

theorem lower_attained (π : V3 K → K) (hπ : ∀ a b, π (vmin a b) = min (π a) (π b)) (p : V3 K) (ps : List (V3 K)) :
    ∃ q ∈ p :: ps, π (lower p ps) = π q := by
  induction ps generalizing p with
  | nil => exact ⟨p, List.mem_cons_self, rfl⟩
  | cons x xs ih =>
    rw [lower_cons, hπ]
    rcases min_choice (π p) (π (lower x xs)) with h | h
    · exact ⟨p, List.mem_cons_self, h⟩
    · obtain ⟨q, hq, e⟩ := ih x
      exact ⟨q, List.mem_cons_of_mem _ hq, h.trans e⟩

theorem add_vmin (a b t : V3 K) : add (vmin a b) t = vmin (add a t) (add b t) := by
  simp only [add, vmin, min_add_add_right]

theorem add_vmax (a b t : V3 K) : add (vmax a b) t = vmax (add a t) (add b t) := by
  simp only [add, vmax, max_add_add_right]

end TV.Scene
