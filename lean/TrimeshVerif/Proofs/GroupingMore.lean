/-
Helper lemmas for the C06 theorems about `merge_runs`, `boolean_rows`, `blocks`, `unique_value_in_row` and
`unique_bincount` (models in Model/Grouping.lean).
For `blocks`: the inflection points `infl data` of non-empty data ascend strictly, two consecutive ones bound exactly a
maximal run of equal values (`mem_consec_infl`), and the ranges between them tile the index range (`runsOf_flatten`).
Core Lean only.
-/
import TrimeshVerif.Proofs.Grouping
namespace TV.Grouping
open TV

/-- expansion of (value, count) pairs: the inverse of run merging -/
def expandRuns (vs : List Int) (cs : List Nat) : List Int :=
  (vs.zip cs).flatMap (fun vc => List.replicate vc.2 vc.1)

theorem expandRuns_cons (v : Int) (vs : List Int) (c : Nat) (cs : List Nat) :
    expandRuns (v :: vs) (c :: cs) = List.replicate c v ++ expandRuns vs cs := rfl

theorem mergeRuns_head : ∀ (x : Int) (t : List Int), (mergeRuns (x :: t)).head? = some x
  | x, [] => rfl
  | x, y :: t => by
    unfold mergeRuns
    split
    · next h => rw [h]; exact mergeRuns_head y t
    · rfl

theorem mergeRuns_adjacent (l : List Int) : ∀ i, i + 1 < (mergeRuns l).length →
    (mergeRuns l)[i]? ≠ (mergeRuns l)[i + 1]? := by
  fun_induction mergeRuns l with
  | case1 => simp
  | case2 x => simp
  | case3 x t ih => exact ih
  | case4 x y t hxy ih =>
    intro i h
    cases i with
    | zero =>
      -- the rest begins with `y`
      obtain ⟨ms, hm⟩ := List.head?_eq_some_iff.mp (mergeRuns_head y t)
      rw [hm]
      exact fun e => hxy (Option.some.inj e)
    | succ i => exact ih i (Nat.lt_of_succ_lt_succ h)

theorem mergeRuns_expand (l : List Int) : ∃ cs : List Nat,
    cs.length = (mergeRuns l).length ∧ (∀ c ∈ cs, 0 < c) ∧ expandRuns (mergeRuns l) cs = l := by
  fun_induction mergeRuns l with
  | case1 => exact ⟨[], rfl, by simp, rfl⟩
  | case2 x => exact ⟨[1], rfl, by simp, rfl⟩
  | case3 x t ih =>
    -- `x` joins the first run of the rest, which is a run of `x`
    obtain ⟨cs, hlen, hpos, hexp⟩ := ih
    obtain ⟨ms, hm⟩ := List.head?_eq_some_iff.mp (mergeRuns_head x t)
    rw [hm] at hlen hexp ⊢
    obtain _ | ⟨c, cs⟩ := cs
    · cases hlen
    · exact ⟨(c + 1) :: cs, hlen, List.forall_mem_cons.mpr ⟨Nat.succ_pos c, (List.forall_mem_cons.mp hpos).2⟩,
        by rw [expandRuns_cons, List.replicate_succ, List.cons_append, ← expandRuns_cons, hexp]⟩
  | case4 x y t hxy ih =>
    obtain ⟨cs, hlen, hpos, hexp⟩ := ih
    exact ⟨1 :: cs, congrArg (· + 1) hlen, List.forall_mem_cons.mpr ⟨Nat.one_pos, hpos⟩,
      by rw [expandRuns_cons, hexp]; rfl⟩
def lexLt (a b : List Int) : Prop := lexLe a b = true ∧ a ≠ b

/-! ### ranges between consecutive inflection points (blocks) -/

theorem rangeFromTo_eq (s e : Nat) : rangeFromTo s e = List.range' s (e - s) := by
  simp [rangeFromTo, List.range'_eq_map_range, Nat.add_comm]

theorem rangeFromTo_length (s e : Nat) : (rangeFromTo s e).length = e - s := by
  simp [rangeFromTo]

theorem mem_rangeFromTo {s e i : Nat} : i ∈ rangeFromTo s e ↔ s ≤ i ∧ i < e := by
  rw [rangeFromTo_eq, List.mem_range'_1]; omega

theorem rangeFromTo_append {s m e : Nat} (h1 : s ≤ m) (h2 : m ≤ e) :
    rangeFromTo s m ++ rangeFromTo m e = rangeFromTo s e := by
  rw [rangeFromTo_eq, rangeFromTo_eq, rangeFromTo_eq, show e - s = (m - s) + (e - m) by omega,
    ← List.range'_append_1, Nat.add_sub_cancel' h1]

theorem rangeFromTo_head? {s e : Nat} (h : s < e) : (rangeFromTo s e).head? = some s := by
  rw [rangeFromTo_eq, List.head?_range', if_neg (by omega)]

theorem rangeFromTo_headD {s e : Nat} (h : s < e) : (rangeFromTo s e).headD 0 = s := by
  rw [List.headD_eq_head?_getD, rangeFromTo_head? h]; rfl

theorem rangeFromTo_getLast? {s e : Nat} (h : s < e) : (rangeFromTo s e).getLast? = some (e - 1) := by
  rw [rangeFromTo_eq, List.getLast?_range', if_neg (by omega)]
  congr 1; omega

def consec (l : List Nat) : List (Nat × Nat) := l.zip l.tail

theorem consec_cons_cons (a b : Nat) (l : List Nat) : consec (a :: b :: l) = (a, b) :: consec (b :: l) := rfl

/-- the ranges between consecutive members of an ascending list from `a` to `b` tile `a .. b-1` -/
theorem consec_ranges_flatten : ∀ (a : Nat) (l : List Nat) (b : Nat), (a :: (l ++ [b])).Pairwise (· ≤ ·) →
    ((consec (a :: (l ++ [b]))).map (fun se => rangeFromTo se.1 se.2)).flatten = rangeFromTo a b
  | a, [], b, _ => by simp [consec]
  | a, c :: l, b, h => by
    obtain ⟨ha, ht⟩ := List.pairwise_cons.mp h
    rw [List.cons_append, consec_cons_cons, List.map_cons,
      List.flatten_cons, consec_ranges_flatten c l b ht,
      rangeFromTo_append (ha c (by simp)) ((List.pairwise_cons.mp ht).1 b (by simp))]

theorem mem_consec_iff : ∀ {l : List Nat}, l.Pairwise (· < ·) → ∀ {s e : Nat},
    (s, e) ∈ consec l ↔ s ∈ l ∧ e ∈ l ∧ s < e ∧ ∀ x ∈ l, ¬ (s < x ∧ x < e)
  | [], _, s, e => by simp [consec]
  | [a], _, s, e => by
    simp only [consec, List.tail_cons, List.zip_nil_right, List.not_mem_nil, List.mem_singleton, false_iff]; omega
  | a :: b :: l, h, s, e => by
    -- `a` lies below every member of `b :: l`, `b` is the least of these
    obtain ⟨ha, ht⟩ := List.pairwise_cons.mp h
    have hb : ∀ x ∈ b :: l, b ≤ x := fun x hx => by
      rcases List.mem_cons.mp hx with rfl | hx
      · exact Nat.le_refl _
      · exact Nat.le_of_lt ((List.pairwise_cons.mp ht).1 x hx)
    have hab := ha b List.mem_cons_self
    -- on the right only the head `a` is split off
    rw [consec_cons_cons, List.mem_cons, mem_consec_iff ht, Prod.mk.injEq, List.mem_cons (a := s) (b := a),
      List.mem_cons (a := e) (b := a), List.forall_mem_cons (a := a)]
    constructor
    · rintro (⟨rfl, rfl⟩ | ⟨hs, he, hlt, hno⟩)
      · exact ⟨.inl rfl, .inr List.mem_cons_self, hab, by omega, fun x hx => by have := hb x hx; omega⟩
      · exact ⟨.inr hs, .inr he, hlt, by have := ha s hs; omega, hno⟩
    · rintro ⟨hs | hs, he | he, hlt, -, hno⟩
      · omega
      · -- `s = a`: then `e = b`, or else `b` would lie between
        have := hb e he; have := hno b List.mem_cons_self
        exact .inl ⟨hs, by omega⟩
      · have := ha s hs; omega
      · exact .inr ⟨hs, he, hlt, hno⟩

/-- `nonzero = arange[1:][data[1:] != data[:-1]]` -/
def changePoints (data : List Int) : List Nat :=
  (List.range data.length).filter (fun i => i ≥ 1 && data.getD i 0 != data.getD (i - 1) 0)

/-- `infl` of `blocks`: 0, the change points, len(data) -/
def infl (data : List Int) : List Nat := 0 :: (changePoints data ++ [data.length])

theorem mem_changePoints {data : List Int} {i : Nat} :
    i ∈ changePoints data ↔ i < data.length ∧ 1 ≤ i ∧ data.getD i 0 ≠ data.getD (i - 1) 0 := by
  simp [changePoints, List.mem_filter]

theorem changePoints_sorted (data : List Int) : (changePoints data).Pairwise (· < ·) :=
  List.Pairwise.filter _ List.pairwise_lt_range

theorem infl_strict (data : List Int) (h : data ≠ []) : (infl data).Pairwise (· < ·) := by
  have hn : 0 < data.length := List.length_pos_iff.mpr h
  unfold infl
  rw [List.pairwise_cons]
  refine ⟨?_, ?_⟩
  · intro a ha
    rcases List.mem_append.mp ha with ha | ha
    · exact (mem_changePoints.mp ha).2.1
    · simp only [List.mem_singleton] at ha; omega
  · rw [List.pairwise_append]
    refine ⟨changePoints_sorted data, by simp, ?_⟩
    intro a ha b hb
    simp only [List.mem_singleton] at hb
    subst hb
    exact (mem_changePoints.mp ha).1

theorem infl_sorted (data : List Int) : (infl data).Pairwise (· ≤ ·) := by
  by_cases h : data = []
  · subst h; simp [infl, changePoints]
  · exact (infl_strict data h).imp Nat.le_of_lt

theorem mem_infl {data : List Int} {x : Nat} :
    x ∈ infl data ↔ x ≤ data.length ∧ (x = 0 ∨ x = data.length ∨ data.getD x 0 ≠ data.getD (x - 1) 0) := by
  simp only [infl, List.mem_cons, List.mem_append, mem_changePoints, List.not_mem_nil, or_false]
  omega

/-- the maximal runs of equal values, as index ranges (the `rs` of `blocksSpec`) -/
def runsOf (data : List Int) : List (List Nat) := (consec (infl data)).map (fun se => rangeFromTo se.1 se.2)

theorem runsOf_flatten (data : List Int) : (runsOf data).flatten = List.range data.length := by
  rw [runsOf, infl, consec_ranges_flatten 0 _ _ (infl_sorted data), rangeFromTo_eq, List.range_eq_range']
  rfl

theorem const_iff_no_changePoint {data : List Int} {s e : Nat} (he : e ≤ data.length) :
    (∀ i, s ≤ i → i < e → data.getD i 0 = data.getD s 0) ↔ ∀ x ∈ changePoints data, ¬ (s < x ∧ x < e) := by
  constructor
  · intro hc x hx ⟨h1, h2⟩
    have := (mem_changePoints.mp hx).2.2
    rw [hc x (by omega) h2, hc (x - 1) (by omega) (by omega)] at this
    exact this rfl
  · intro hno i hi
    induction hi with
    | refl => exact fun _ => rfl
    | @step i hsi ih =>
      intro h2
      rw [← ih (by omega)]
      exact Decidable.byContradiction fun hne =>
        hno (i + 1) (mem_changePoints.mpr ⟨by omega, by omega, hne⟩) ⟨Nat.lt_succ_of_le hsi, h2⟩

/-- the pairs of consecutive inflection points are exactly the maximal runs of equal values: `s .. e-1` is
    non-empty, the data are constant on it, and it cannot be extended to the left or to the right -/
theorem mem_consec_infl {data : List Int} (hd : data ≠ []) {s e : Nat} :
    (s, e) ∈ consec (infl data) ↔ s < e ∧ e ≤ data.length ∧
      (∀ i, s ≤ i → i < e → data.getD i 0 = data.getD s 0) ∧
      (s = 0 ∨ data.getD s 0 ≠ data.getD (s - 1) 0) ∧ (e = data.length ∨ data.getD e 0 ≠ data.getD (e - 1) 0) := by
  rw [mem_consec_iff (infl_strict data hd)]
  simp only [mem_infl]
  constructor
  · rintro ⟨⟨_, hs⟩, ⟨hen, he⟩, hlt, hno⟩
    refine ⟨hlt, hen, (const_iff_no_changePoint hen).mpr fun x hx => hno x ?_,
      hs.imp_right (·.resolve_left (by omega)), he.resolve_left (by omega)⟩
    have := mem_changePoints.mp hx
    exact ⟨Nat.le_of_lt this.1, Or.inr (Or.inr this.2.2)⟩
  · rintro ⟨hlt, hen, hc, hl, hr⟩
    refine ⟨⟨by omega, hl.imp_right Or.inr⟩, ⟨hen, Or.inr hr⟩, hlt, fun x ⟨_, hx⟩ hb => ?_⟩
    exact (const_iff_no_changePoint hen).mp hc x (mem_changePoints.mpr
      ⟨by omega, by omega, (hx.resolve_left (by omega)).resolve_left (by omega)⟩) hb

theorem lt_le_of_mem_consec_infl {data : List Int} (h : data ≠ []) {se : Nat × Nat} (hse : se ∈ consec (infl data)) :
    se.1 < se.2 ∧ se.2 ≤ data.length :=
  have := (mem_consec_infl h (s := se.1) (e := se.2)).mp hse
  ⟨this.1, this.2.1⟩

theorem runsOf_ne_nil {data : List Int} (hd : data ≠ []) : ∀ r ∈ runsOf data, r ≠ [] := by
  intro r hr
  obtain ⟨se, hse, rfl⟩ := List.mem_map.mp hr
  rw [← List.length_pos_iff, rangeFromTo_length]
  exact Nat.sub_pos_of_lt (lt_le_of_mem_consec_infl hd hse).1

/-! ### `blocks` and `blocksSpec` through `consec (infl data)` and `runsOf data` -/

theorem blocks_nowrap (data : List Int) (minLen : Nat) (maxLen : Option Nat) (onz : Bool) :
    blocks data minLen maxLen false onz = ((consec (infl data)).filter (fun se =>
      (decide (minLen ≤ se.2 - se.1) && maxLen.all (fun m => decide (se.2 - se.1 ≤ m)))
        && (!onz || data.getD se.1 0 != 0))).map (fun se => rangeFromTo se.1 se.2) := by
  cases maxLen <;> rfl

theorem blocksSpec_nowrap (data : List Int) (minLen : Nat) (maxLen : Option Nat) (onz : Bool) :
    blocksSpec data minLen maxLen false onz = (runsOf data).filter (fun r =>
      (decide (minLen ≤ r.length) && maxLen.all (fun m => decide (r.length ≤ m)))
        && (!onz || data.getD (r.headD 0) 0 != 0)) := by
  cases maxLen <;> rfl

/-- the `pairs` of `blocks` and `blocksSpec`, in the form in which `simp only [blocks, blocksSpec]` leaves them -/
theorem blocks_pairs_eq (data : List Int) :
    let nonzero := (List.range data.length).filter (fun i => i ≥ 1 && data.getD i 0 != data.getD (i - 1) 0)
    (0 :: nonzero ++ [data.length]).zip (0 :: nonzero ++ [data.length]).tail = consec (infl data) :=
  rfl

theorem head_getLast_of_tile {gs : List (List Nat)} {n : Nat} (hn : 0 < n) (ht : gs.flatten = List.range n)
    (hne : ∀ g ∈ gs, g ≠ []) :
    (∃ t, gs.head? = some (0 :: t)) ∧ ∃ b, gs.getLast? = some b ∧ b.getLast? = some (n - 1) := by
  have hgs : gs ≠ [] := by rintro rfl; cases n <;> simp [List.range_succ] at ht hn
  constructor
  · obtain ⟨g, rest, rfl⟩ := List.exists_cons_of_ne_nil hgs
    obtain ⟨a, t, rfl⟩ := List.exists_cons_of_ne_nil (hne g (by simp))
    have := congrArg List.head? ht
    rw [List.flatten_cons, List.cons_append, List.head?_cons, List.head?_range, if_neg (by omega)] at this
    exact ⟨t, by rw [Option.some.inj this]; rfl⟩
  · refine ⟨gs.getLast hgs, List.getLast?_eq_some_getLast hgs, ?_⟩
    obtain ⟨a, hb⟩ := List.getLast?_isSome.mpr (hne _ (List.getLast_mem hgs)) |> Option.isSome_iff_exists.mp
    have := congrArg List.getLast? ht
    rw [← List.dropLast_concat_getLast hgs, List.flatten_append, List.getLast?_append, List.flatten_singleton, hb,
      List.getLast?_range, if_neg (by omega)] at this
    rw [hb]; exact this

/-! ### `unique_value_in_row` and `unique_bincount` -/

theorem count_map_beq (r : List Int) (w : Int) : (r.map (fun v => v == w)).count true = r.count w := by
  rw [List.count_eq_countP, List.countP_map, List.count_eq_countP]
  exact List.countP_congr fun v _ => by simp

def uviRow (r : List Int) : List Bool :=
  match r.filter (fun v => r.count v == 1) with
  | [] => r.map (fun _ => false)
  | o :: os => let w := os.foldl max o; r.map (fun v => v == w)

/-- a row without a value that occurs once is not marked; otherwise one such value `w` is chosen and exactly the
    entries equal to it are marked -/
theorem uviRow_cases (r : List Int) : (uviRow r = r.map (fun _ => false) ∧ ∀ v ∈ r, r.count v ≠ 1) ∨
    ∃ w ∈ r, r.count w = 1 ∧ uviRow r = r.map (· == w) := by
  unfold uviRow
  cases h : r.filter (fun v => r.count v == 1) with
  | nil => exact Or.inl ⟨rfl, fun v hv hc => List.filter_eq_nil_iff.mp h v hv (beq_iff_eq.mpr hc)⟩
  | cons o os =>
    obtain ⟨hwr, hwc⟩ := List.mem_filter.mp (h ▸ foldl_max_mem o os)
    exact Or.inr ⟨_, hwr, beq_iff_eq.mp hwc, rfl⟩

theorem filter_range_getElem (p : Nat → Bool) (m v : Nat) (hv : v < m) (hp : p v = true) :
    ((List.range m).filter p)[((List.range (v + 1)).filter p).length - 1]? = some v := by
  obtain ⟨k, rfl⟩ : ∃ k, m = v + 1 + k := ⟨m - (v + 1), by omega⟩
  have hf : (List.range (v + 1)).filter p = (List.range v).filter p ++ [v] := by
    rw [List.range_succ, List.filter_append]; simp [hp]
  rw [List.range_add, List.filter_append, hf, List.length_append, List.length_singleton, Nat.add_sub_cancel,
    List.append_assoc, List.getElem?_append_right (Nat.le_refl _), Nat.sub_self]
  rfl

end TV.Grouping
