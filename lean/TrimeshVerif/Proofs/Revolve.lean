/-
C15: the kinds of revolve `creation.py` builds - profile from the axis to the axis, closed profile away from the axis,
open loop; full turn, or partial turn with caps.  Where triangles are dropped the face lists of the model are
instances of one `grid` over a vertex numbering: it is what the index arithmetic of `creation.revolve` keeps
(`grid_eq_revolveFaces`), and its directed edges are a sum over the quads of the merged numbering `w i j` (`em_grid`;
`em_revolveFaces_all` for the open loop), to which the theorems of `Proofs/RevolveGrid.lean` apply.  Then for each kind
the facts about its `w`: which rows are single points or coincide, and that a full turn wraps.
-/
import TrimeshVerif.Proofs.RevolveGrid
import TrimeshVerif.Proofs.ListAux
namespace TV.RevolveGrid
open Finset

/-! ### the faces `revolve` stacks, read on a vertex numbering -/

theorem zipIdx_flatMap2 {α : Type} (n : Nat) (a b : Nat → α) :
    ((List.range n).flatMap (fun i => [a i, b i])).zipIdx
      = (List.range n).flatMap (fun i => [(a i, 2 * i), (b i, 2 * i + 1)]) := by
  induction n with
  | zero => rfl
  | succ n ih =>
    rw [List.range_succ, List.flatMap_append, List.flatMap_append, List.zipIdx_append, ih,
      length_flatMap_const (k := 2) _ _ (fun _ _ => rfl), List.length_range]
    simp

/-- `single` without the index bookkeeping: triangles `2 i` and `2 i + 1` of profile segment `i`, each kept or not -/
theorem single_eq (per : Nat) (keep : Nat → Bool) :
    TV.Creation.single per keep = (List.range per).flatMap (fun i =>
      (if keep (2 * i) then [(i, per + i, (i + 1) % per)] else [])
        ++ (if keep (2 * i + 1) then [((i + 1) % per, per + i, per + (i + 1) % per)] else [])) := by
  unfold TV.Creation.single
  rw [zipIdx_flatMap2, List.filterMap_flatMap]
  refine List.flatMap_congr (fun i _ => ?_)
  rw [List.filterMap_cons, List.filterMap_cons, List.filterMap_nil]
  cases keep (2 * i) <;> cases keep (2 * i + 1) <;> rfl

/-- the faces of `revolve` on any vertex numbering `v` that agrees with its index arithmetic -/
theorem revolveFaces_eq (per slices nVerts : Nat) (keep : Nat → Bool) (v : Nat → Nat → Nat)
    (hv : ∀ i k, i < per → k ≤ slices → (i + k * per) % nVerts = v i k) :
    TV.Creation.revolveFaces per slices nVerts keep
      = (List.range slices).flatMap (fun j => (List.range per).flatMap (fun i =>
          (if keep (2 * i) then [(v i j, v i (j + 1), v ((i + 1) % per) j)] else [])
            ++ (if keep (2 * i + 1) then [(v ((i + 1) % per) j, v i (j + 1), v ((i + 1) % per) (j + 1))] else []))) := by
  unfold TV.Creation.revolveFaces
  refine List.flatMap_congr (fun j hj => ?_)
  rw [single_eq, List.map_flatMap]
  refine List.flatMap_congr (fun i hi => ?_)
  have hj' : j < slices := List.mem_range.mp hj
  have hi' : i < per := List.mem_range.mp hi
  have hi1 : (i + 1) % per < per := Nat.mod_lt _ (by omega)
  -- `per + x` is `x` one section on
  have next : ∀ x, per + x + j * per = x + (j + 1) * per := fun x => by rw [Nat.add_mul, Nat.one_mul]; omega
  rw [List.map_append, apply_ite (List.map _), apply_ite (List.map _)]
  simp only [List.map_cons, List.map_nil, next, hv i j hi' (by omega), hv i (j + 1) hi' hj',
    hv _ j hi1 (by omega), hv _ (j + 1) hi1 hj']

/-- the index `revolve` computes for profile point `i` on any section `k`, wrapped at the vertex count of a full turn -/
theorem shift_mod (per slices i k : Nat) (hi : i < per) :
    (i + k * per) % (per * slices) = vid per slices i k := by
  unfold vid
  rcases Nat.eq_zero_or_pos slices with rfl | hs
  · rw [Nat.mul_zero, Nat.mod_zero, Nat.mod_zero, Nat.add_comm]
  · have hb : (k % slices + 1) * per ≤ slices * per := Nat.mul_le_mul_right per (Nat.mod_lt k hs)
    rw [Nat.add_mul, Nat.one_mul] at hb
    rw [Nat.add_mod, Nat.mul_comm per slices, Nat.mul_mod_mul_right, Nat.mod_eq_of_lt (a := i) (by omega),
      Nat.mod_eq_of_lt (by omega), Nat.add_comm]

/-- a partial turn of `slices` sections has `per * (slices + 1)` vertices: it is numbered like a full turn of
    `slices + 1` sections that never reaches the wrap -/
theorem shiftO_mod (per slices i k : Nat) (hi : i < per) (hk : k ≤ slices) :
    (i + k * per) % (per * (slices + 1)) = vidO per i k := by
  rw [shift_mod per (slices + 1) i k hi, vid, vidO, Nat.mod_eq_of_lt (by omega)]

/-! ### the grid every kind of revolve keeps -/

section grid
variable (n s : Nat) (dA dB : Nat → Prop) [DecidablePred dA] [DecidablePred dB] (v : Nat → Nat → Nat)

/-- profile segments `i < n` on sections `j < s` of the vertex numbering `v`, the first triangle of segment `i` dropped
    where `dA i` and the second where `dB i`.  `gridFaces`, `gridFacesO` and `gridFacesR` of the model unfold to this
    grid, on `vid` or `vidO`, with the triangles at the axis dropped or none. -/
def grid : List Face :=
  (List.range s).flatMap (fun j => (List.range n).flatMap (fun i =>
    (if dA i then [] else [(v i j, v i (j + 1), v (i + 1) j)]) ++
    (if dB i then [] else [(v (i + 1) j, v i (j + 1), v (i + 1) (j + 1))])))

/-- it is the face arithmetic of `revolve` under a keep pattern that drops the wrap-around quad `i = n` and, of profile
    segment `i < n`, the first triangle where `dA i` and the second where `dB i` -/
theorem grid_eq_revolveFaces (nVerts : Nat) (keep : Nat → Bool)
    (hv : ∀ i k, i < n + 1 → k ≤ s → (i + k * (n + 1)) % nVerts = v i k)
    (hA : ∀ i, i ≤ n → (keep (2 * i) = true ↔ ¬ dA i ∧ ¬ i = n))
    (hB : ∀ i, i ≤ n → (keep (2 * i + 1) = true ↔ ¬ dB i ∧ ¬ i = n)) :
    grid n s dA dB v = TV.Creation.revolveFaces (n + 1) s nVerts keep := by
  rw [grid, revolveFaces_eq (n + 1) s nVerts _ v hv]
  refine List.flatMap_congr (fun j _ => ?_)
  -- nothing is kept of the wrap-around quad `i = n`
  rw [List.range_succ (n := n), List.flatMap_append, List.flatMap_singleton,
    Bool.eq_false_iff.mpr (fun h => ((hA n le_rfl).mp h).2 rfl),
    Bool.eq_false_iff.mpr (fun h => ((hB n le_rfl).mp h).2 rfl)]
  simp only [Bool.false_eq_true, if_false, List.append_nil]
  refine List.flatMap_congr (fun i hi => ?_)
  have hi' : i < n := List.mem_range.mp hi
  simp only [hA i hi'.le, hB i hi'.le, hi'.ne, not_false_eq_true, and_true, ite_not,
    Nat.mod_eq_of_lt (by omega : i + 1 < n + 1)]

theorem em_grid (f : Nat → Nat) :
    em ((grid n s dA dB v).map (mapFace f)) = ∑ j ∈ range s, ∑ i ∈ range n,
      ((if dA i then 0 else eA (fun i j => f (v i j)) i j) + (if dB i then 0 else eB (fun i j => f (v i j)) i j)) := by
  simp only [grid, em_map, em_flatMap_range, em_append, apply_ite em, em_nil, em_single, map_sum_range,
    Multiset.map_add, apply_ite (Multiset.map _), Multiset.map_zero, Multiset.map_singleton, Prod.map_apply]
  rfl

end grid

/-! ### profile from the axis to the axis, full turn -/

/-- the merged vertex index of profile point `i` on slice `j` -/
def wv (per slices i j : Nat) : Nat := ident per (vid per slices i j)

theorem ident_axis (m a : Nat) : ident (m + 2) (a * (m + 2) + 0) = 0 ∧ ident (m + 2) (a * (m + 2) + (m + 1)) = m + 1 := by
  simp [ident]

/-- merged, each of the two rows on the axis is one vertex on every section -/
theorem wv_axis (m slices j : Nat) :
    wv (m + 2) slices 0 (j + 1) = wv (m + 2) slices 0 j ∧
      wv (m + 2) slices (m + 1) (j + 1) = wv (m + 2) slices (m + 1) j := by
  simp only [wv, vid, (ident_axis m _).1, (ident_axis m _).2, and_self]

theorem wv_wrap (per slices i : Nat) : wv per slices i slices = wv per slices i 0 := by
  simp [wv, vid]

/-! ### profile from the axis to the axis, partial turn with caps -/

def wO (per i j : Nat) : Nat := ident per (vidO per i j)

theorem wO_axis (m j : Nat) :
    wO (m + 2) 0 (j + 1) = wO (m + 2) 0 j ∧ wO (m + 2) (m + 1) (j + 1) = wO (m + 2) (m + 1) j := by
  simp only [wO, vidO, (ident_axis m _).1, (ident_axis m _).2, and_self]

theorem coe_bd (n : Nat) : ((bd n : List (Nat × Nat)) : E) = Bd n := by
  unfold bd Bd
  rw [← Multiset.coe_add, coe_map_range]
  rfl

theorem capOk_capEq (n : Nat) (T : List Face) (h : capOk n T = true) : CapEq n T :=
  (closedUpTo_of_isPerm _ _ h).congr_right (coe_bd n)

/-! ### closed profile away from the axis, full turn: row `per - 1` is merged into row 0 -/

def wR (per slices i j : Nat) : Nat := identR per (vid per slices i j)

theorem wR_last (m slices j : Nat) : wR (m + 2) slices (m + 1) j = wR (m + 2) slices 0 j := by
  simp [wR, vid, identR]

theorem wR_wrap (per slices i : Nat) : wR per slices i slices = wR per slices i 0 := by
  simp [wR, vid]

/-! ### open loop profile (full turn: torus; partial turn with caps): nothing dropped, nothing merged -/

/-- the quad of the last profile point returns to the first point of the same two sections: the profile is cyclic -/
theorem em_revolveFaces_all (per slices nVerts : Nat) (v : Nat → Nat → Nat)
    (hv : ∀ i k, i < per → k ≤ slices → (i + k * per) % nVerts = v i k) :
    em (TV.Creation.revolveFaces per slices nVerts (fun _ => true))
      = ∑ j ∈ range slices, ∑ i ∈ range per,
          (eA (fun i j => v (i % per) j) i j + eB (fun i j => v (i % per) j) i j) := by
  rw [revolveFaces_eq per slices nVerts (fun _ => true) v hv]
  simp only [if_true, List.singleton_append, em_flatMap_range, em_cons _ [_], em_single]
  refine sum_congr rfl (fun j _ => sum_congr rfl (fun i hi => ?_))
  simp only [eA, eB, Nat.mod_eq_of_lt (mem_range.mp hi)]

/-! ### the keep pattern of an axis-to-axis profile -/

/-- the keep pattern of an axis-to-axis profile: `revolve` drops its zero-area triangles - triangle `2*i` for `i = 0`,
    triangle `2*i + 1` for `i = per - 2` - and both triangles of the wrap-around quad `i = per - 1` -/
def axisKeep (per : Nat) (k : Nat) : Bool := !(k = 0 || k = 2 * (per - 2) + 1 || k = 2 * (per - 1) || k = 2 * (per - 1) + 1)

theorem axisKeep_even (m i : Nat) : axisKeep (m + 2) (2 * i) = true ↔ ¬ i = 0 ∧ ¬ i = m + 1 := by
  simp [axisKeep]
  omega

theorem axisKeep_odd (m i : Nat) : axisKeep (m + 2) (2 * i + 1) = true ↔ ¬ i = m ∧ ¬ i = m + 1 := by
  simp [axisKeep]
  omega

end TV.RevolveGrid
