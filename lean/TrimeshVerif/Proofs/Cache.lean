import TrimeshVerif.Model.Cache
import TrimeshVerif.Proofs.ListAux
/-
Helper lemmas for C01 (hash-validated cache): `Coherent` holds initially and is preserved by `verify`,
`read`, `edit` and every `MutSound` mutator; a read on a coherent state is fresh.
-/
namespace TV.Cache

variable {D V : Type} [DecidableEq D]

@[simp] theorem verify_data (s : St D V) : (verify s).data = s.data := by
  unfold verify; split <;> rfl

@[simp] theorem verify_idCur (s : St D V) : (verify s).idCur = some s.data := by
  unfold verify; split
  · assumption
  · rfl

omit [DecidableEq D] in
theorem coherent_of_cache_nil {f : String → D → V} {s : St D V} (h : s.cache = []) : Coherent f s :=
  ⟨fun _ => h, fun _ _ e he => by rw [h] at he; cases he⟩

omit [DecidableEq D] in
theorem coherent_init (f : String → D → V) (d : D) : Coherent f (St.init d : St D V) :=
  coherent_of_cache_nil rfl

theorem coherent_verify {f : String → D → V} {s : St D V} (h : Coherent f s) :
    Coherent f (verify s) := by
  unfold verify; split
  · exact h
  · exact coherent_of_cache_nil rfl

/-- after `verify` on a coherent state every stored value is a value on the *current* data -/
theorem verify_entries {f : String → D → V} {s : St D V} (h : Coherent f s) :
    ∀ e ∈ (verify s).cache, e.2 = f e.1 s.data :=
  fun e he => (coherent_verify h).2 s.data (verify_idCur s) e he

theorem read_fst_of_coherent {f : String → D → V} {s : St D V} (h : Coherent f s) (k : String) :
    (read f s k).1 = f k s.data := by
  unfold read
  simp only
  split
  · next v hv => exact verify_entries h (k, v) (mem_of_lookup_eq_some hv)
  · simp

theorem read_data (f : String → D → V) (s : St D V) (k : String) : (read f s k).2.data = s.data := by
  unfold read
  simp only
  split <;> simp

theorem coherent_read {f : String → D → V} {s : St D V} (h : Coherent f s) (k : String) :
    Coherent f (read f s k).2 := by
  unfold read
  simp only
  split
  · exact coherent_verify h
  · refine ⟨by simp, fun d0 hd0 => ?_⟩
    cases (verify_idCur s).symm.trans hd0
    exact List.forall_mem_cons.mpr ⟨congrArg (f k) (verify_data s), verify_entries h⟩

omit [DecidableEq D] in
theorem coherent_edit {f : String → D → V} {s : St D V} (h : Coherent f s) (g : D → D) :
    Coherent f (edit g s) := h

theorem mutate_data (m : Mutator D V) (s : St D V) : (mutate m s).data = m.apply s.data := by
  unfold mutate
  cases m.verifiesFirst <;> simp

theorem mutate_keep_nil (m : Mutator D V) (s : St D V) (hk : m.keep = []) : (mutate m s).cache = [] := by
  simp [mutate, hk]

theorem coherent_mutate {f : String → D → V} {s : St D V} {m : Mutator D V} (h : Coherent f s)
    (hm : MutSound f m) : Coherent f (mutate m s) := by
  rcases hm with hk | ⟨hv, ht⟩
  · exact coherent_of_cache_nil (mutate_keep_nil m s hk)
  · -- the id afterwards is `some (if m.setsId then m.apply s.data else s.data)`: the data `ht` speaks of
    unfold mutate
    simp only [hv, if_true, verify_data, verify_idCur, ← apply_ite some]
    refine ⟨nofun, ?_⟩
    rintro _ ⟨rfl⟩ e he
    obtain ⟨e0, he0, rfl⟩ := List.mem_map.mp he
    obtain ⟨he0, hkeep⟩ := List.mem_filter.mp he0
    rw [verify_entries h e0 he0]
    exact ht s.data e0.1 (by simpa using hkeep)

theorem coherent_run {f : String → D → V} : ∀ (ops : List (Op D V)) (s : St D V), Coherent f s →
    OpsSound f ops → Coherent f (run f s ops)
  | [], _, h, _ => h
  | .read k :: t, _, h, hs => coherent_run t _ (coherent_read h k) hs
  | .edit g :: t, _, h, hs => coherent_run t _ (coherent_edit h g) hs
  | .mutate _ :: t, _, h, hs => coherent_run t _ (coherent_mutate h hs.1) hs.2

/-- the data after a history is a function of the data before it and of the edits and mutators: neither the
    cache nor the reads in between matter -/
theorem run_data_congr (f : String → D → V) : ∀ (ops : List (Op D V)) (s s' : St D V), s.data = s'.data →
    (run f s ops).data
      = (run f s' (ops.filter (fun o => match o with | .read _ => false | _ => true))).data
  | [], _, _, h => h
  | .read k :: t, s, s', h => run_data_congr f t _ s' ((read_data f s k).trans h)
  | .edit g :: t, s, s', h => run_data_congr f t (edit g s) (edit g s') (congrArg g h)
  | .mutate m :: t, s, s', h => run_data_congr f t (mutate m s) (mutate m s') (by rw [mutate_data, mutate_data, h])

end TV.Cache
