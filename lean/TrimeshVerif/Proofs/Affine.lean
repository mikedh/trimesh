/- linear / affine maps on K³ written out in coordinates (friendly to `ring`), and what they do to the cone
   moments of a face; for C03, C04, C10, C18 -/
import TrimeshVerif.Proofs.Moments
import TrimeshVerif.Proofs.Mat3
namespace TV.Affine
open TV.Mat3 TV.Moments

variable {K : Type} [Field K]

abbrev V3 (K : Type) := K × K × K

def dot (a b : V3 K) : K := a.1 * b.1 + a.2.1 * b.2.1 + a.2.2 * b.2.2
def cross (a b : V3 K) : V3 K :=
  (a.2.1 * b.2.2 - a.2.2 * b.2.1, a.2.2 * b.1 - a.1 * b.2.2, a.1 * b.2.1 - a.2.1 * b.1)
def add (a b : V3 K) : V3 K := (a.1 + b.1, a.2.1 + b.2.1, a.2.2 + b.2.2)
def sub (a b : V3 K) : V3 K := (a.1 - b.1, a.2.1 - b.2.1, a.2.2 - b.2.2)
def smul (s : K) (a : V3 K) : V3 K := (s * a.1, s * a.2.1, s * a.2.2)

/-- homogeneous transform `p ↦ L p + t` (what `transform_points` computes away from the identity shortcut) -/
def transformPoint (L : M3 K) (t : V3 K) (p : V3 K) : V3 K := add (L.apply p) t

/-- cofactor matrix (`det L · L⁻ᵀ` when `L` is invertible) -/
def cofactor (L : M3 K) : M3 K :=
  ⟨L.m11 * L.m22 - L.m12 * L.m21, L.m12 * L.m20 - L.m10 * L.m22, L.m10 * L.m21 - L.m11 * L.m20,
   L.m02 * L.m21 - L.m01 * L.m22, L.m00 * L.m22 - L.m02 * L.m20, L.m01 * L.m20 - L.m00 * L.m21,
   L.m01 * L.m12 - L.m02 * L.m11, L.m02 * L.m10 - L.m00 * L.m12, L.m00 * L.m11 - L.m01 * L.m10⟩

/-- exact tetrahedron moments as functions of three points -/
def vol (a b c : V3 K) : K := T0 a.1 a.2.1 a.2.2 b.1 b.2.1 b.2.2 c.1 c.2.1 c.2.2
def first (a b c : V3 K) : V3 K :=
  (T1 a.1 a.2.1 a.2.2 b.1 b.2.1 b.2.2 c.1 c.2.1 c.2.2, T2 a.1 a.2.1 a.2.2 b.1 b.2.1 b.2.2 c.1 c.2.1 c.2.2,
   T3 a.1 a.2.1 a.2.2 b.1 b.2.1 b.2.2 c.1 c.2.1 c.2.2)
/-- second-moment matrix (xx, xy, xz; yx, yy, yz; zx, zy, zz) -/
def second (a b c : V3 K) : M3 K :=
  ⟨T4 a.1 a.2.1 a.2.2 b.1 b.2.1 b.2.2 c.1 c.2.1 c.2.2, T7 a.1 a.2.1 a.2.2 b.1 b.2.1 b.2.2 c.1 c.2.1 c.2.2,
   T9 a.1 a.2.1 a.2.2 b.1 b.2.1 b.2.2 c.1 c.2.1 c.2.2,
   T7 a.1 a.2.1 a.2.2 b.1 b.2.1 b.2.2 c.1 c.2.1 c.2.2, T5 a.1 a.2.1 a.2.2 b.1 b.2.1 b.2.2 c.1 c.2.1 c.2.2,
   T8 a.1 a.2.1 a.2.2 b.1 b.2.1 b.2.2 c.1 c.2.1 c.2.2,
   T9 a.1 a.2.1 a.2.2 b.1 b.2.1 b.2.2 c.1 c.2.1 c.2.2, T8 a.1 a.2.1 a.2.2 b.1 b.2.1 b.2.2 c.1 c.2.1 c.2.2,
   T6 a.1 a.2.1 a.2.2 b.1 b.2.1 b.2.2 c.1 c.2.1 c.2.2⟩

/-- adjugate identity `cof(L) · Lᵀ = det L · 1` -/
theorem cofactor_mul_transpose (L : M3 K) : cofactor L * L.transpose = M3.smul L.det 1 := by
  simp only [cofactor, M3.mul_def, M3.mul, M3.transpose, M3.smul, M3.det, M3.one_def, M3.one]
  ext <;> ring

/-- Lagrange identity `|a × b|² = |a|²|b|² − (a·b)²` -/
theorem dot_cross_self (a b : V3 K) :
    dot (cross a b) (cross a b) = dot a a * dot b b - dot a b ^ 2 := by
  simp only [dot, cross]
  ring

theorem apply_mul (A B : M3 K) (v : V3 K) : (A * B).apply v = A.apply (B.apply v) :=
  Prod.ext M3.row_mul_col (Prod.ext M3.row_mul_col M3.row_mul_col)

/-- the transpose is the adjoint: `(L u) · w = u · (Lᵀ w)` -/
theorem dot_apply (L : M3 K) (u w : V3 K) : dot (L.apply u) w = dot u (L.transpose.apply w) := by
  simp only [dot, M3.apply, M3.transpose]
  ring

theorem dot_apply_similarity (L : M3 K) (s : K) (h : L.transpose * L = M3.smul (s ^ 2) 1)
    (u v : V3 K) : dot (L.apply u) (L.apply v) = s ^ 2 * dot u v := by
  rw [dot_apply, ← apply_mul, h]
  simp only [dot, M3.apply, M3.smul, M3.one_def, M3.one]
  ring

theorem apply_add (A : M3 K) (a b : V3 K) : A.apply (add a b) = add (A.apply a) (A.apply b) := by
  simp only [M3.apply, add, Prod.mk.injEq]
  refine ⟨?_, ?_, ?_⟩ <;> ring

theorem transformPoint_comp (M L : M3 K) (m t p : V3 K) :
    transformPoint (M * L) (add (M.apply t) m) p = transformPoint M m (transformPoint L t p) := by
  simp only [transformPoint, apply_mul, apply_add]
  simp only [add, add_assoc]

theorem transformPoint_smul (L : M3 K) (t p : V3 K) (s : K) :
    transformPoint L (smul s t) (smul s p) = smul s (transformPoint L t p) := by
  simp only [transformPoint, add, smul, M3.apply, Prod.mk.injEq]
  refine ⟨?_, ?_, ?_⟩ <;> ring

/-! ### what a linear map, and a translation, do to the cone over a face

Every moment of the cone (origin, a, b, c) is `det3 a b c` times a form in the coordinates of the corners: a
constant for the volume, `a + b + c` for the first moments, the bilinear `q2` for the second.  So a linear map acts
on all of them through `det3_apply` and the (bi)linearity of the form. -/

/-- `det3` of three points; reducible, so that a lemma stated with it rewrites the `det3 a.1 a.2.1 …` to which
    `vol`, `first`, `second` and `Remesh.moments` unfold -/
abbrev det3v (a b c : V3 K) : K := det3 a.1 a.2.1 a.2.2 b.1 b.2.1 b.2.2 c.1 c.2.1 c.2.2

theorem det3_apply (L : M3 K) (a b c : V3 K) : det3v (L.apply a) (L.apply b) (L.apply c) = L.det * det3v a b c := by
  simp only [det3, M3.det, M3.apply]
  ring

/-- the triple product `x · (y × z)` is the determinant of the three vectors -/
theorem dot_cross (x y z : V3 K) : dot x (cross y z) = det3v x y z := by
  simp only [dot, cross, det3]
  ring

theorem vol_apply (L : M3 K) (a b c : V3 K) : vol (L.apply a) (L.apply b) (L.apply c) = L.det * vol a b c := by
  simp only [vol, T0, det3_apply]
  ring

/-- the tensor law for one entry: for rows `x`, `y` of `L` the second moment `∫ (x·p)(y·p)` over the image cone is
    `det L · Σ xₖ yₗ ∫ pₖ pₗ` (bilinearity of `q2`); the sum is written the way entry `(x, y)` of `L * S * Lᵀ` unfolds -/
theorem second_apply_entry (L : M3 K) (a b c : V3 K) {S : M3 K} (hS : S = second a b c) (x1 x2 x3 y1 y2 y3 : K) :
    det3v (L.apply a) (L.apply b) (L.apply c)
        * q2 (x1 * a.1 + x2 * a.2.1 + x3 * a.2.2) (y1 * a.1 + y2 * a.2.1 + y3 * a.2.2)
          (x1 * b.1 + x2 * b.2.1 + x3 * b.2.2) (y1 * b.1 + y2 * b.2.1 + y3 * b.2.2)
          (x1 * c.1 + x2 * c.2.1 + x3 * c.2.2) (y1 * c.1 + y2 * c.2.1 + y3 * c.2.2) / 120
      = L.det * ((x1 * S.m00 + x2 * S.m10 + x3 * S.m20) * y1 + (x1 * S.m01 + x2 * S.m11 + x3 * S.m21) * y2
        + (x1 * S.m02 + x2 * S.m12 + x3 * S.m22) * y3) := by
  subst hS
  simp only [second, T4, T5, T6, T7, T8, T9, det3_apply, q2]
  ring

theorem vol_swap (a b c : V3 K) : vol a c b = - vol a b c := by
  simp only [vol, T0, det3]
  ring

theorem vol_antisymm (t u v : V3 K) : vol t u v + vol t v u = 0 := by
  rw [vol_swap t u v, add_neg_cancel]

/-- translating a face by `t` changes the volume of its cone by the cones from `t` over its three edges: edge terms
    only, which cancel on a closed surface (`Moments.face_sum_eq`) -/
theorem vol_add (t a b c : V3 K) :
    vol (add a t) (add b t) (add c t) = vol a b c + (vol t a b + vol t b c + vol t c a) := by
  simp only [vol, T0, det3, add]
  ring

end TV.Affine
