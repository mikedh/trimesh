import TrimeshVerif.Model.Forest
/-!
Lemmas for C09 (scene-graph forest).  Core Lean only.  Two results carry the rest: `getRaw_spec` (in a well-formed
acyclic forest the cache-free query is `world(a)⁻¹ · world(b)`, or "no path" across trees) and `CacheInv` (what the three
caches of a `Graph` hold is correct for its current forest), which every operation keeps while the forest stays acyclic.
-/
namespace TV.Forest

variable {N G : Type} [DecidableEq N]

/-! ### group algebra from `LawfulGroup` (`g_foo` is Mathlib's `foo`) -/
section grp
variable [Mul G] [One G] [Inv G] [LawfulGroup G]

theorem g_eq_inv_of_mul_eq_one_right {a b : G} (h : a * b = 1) : b = a⁻¹ := by
  calc b = 1 * b := (LawfulGroup.one_mul b).symm
    _ = (a⁻¹ * a) * b := by rw [LawfulGroup.inv_mul_cancel]
    _ = a⁻¹ * (a * b) := LawfulGroup.mul_assoc _ _ _
    _ = a⁻¹ * 1 := by rw [h]
    _ = a⁻¹ := LawfulGroup.mul_one _

theorem g_inv_inv (a : G) : (a⁻¹)⁻¹ = a :=
  (g_eq_inv_of_mul_eq_one_right (LawfulGroup.inv_mul_cancel a)).symm

theorem g_inv_one : (1 : G)⁻¹ = 1 :=
  (g_eq_inv_of_mul_eq_one_right (LawfulGroup.one_mul (1 : G))).symm

theorem g_mul_inv_rev (a b : G) : (a * b)⁻¹ = b⁻¹ * a⁻¹ := by
  symm
  apply g_eq_inv_of_mul_eq_one_right
  calc a * b * (b⁻¹ * a⁻¹) = a * (b * (b⁻¹ * a⁻¹)) := LawfulGroup.mul_assoc _ _ _
    _ = a * ((b * b⁻¹) * a⁻¹) := by rw [LawfulGroup.mul_assoc b]
    _ = a * a⁻¹ := by rw [LawfulGroup.mul_inv_cancel, LawfulGroup.one_mul]
    _ = 1 := LawfulGroup.mul_inv_cancel a

theorem g_telescope (x y z : G) : (x⁻¹ * y) * (y⁻¹ * z) = x⁻¹ * z := by
  calc (x⁻¹ * y) * (y⁻¹ * z) = x⁻¹ * (y * (y⁻¹ * z)) := LawfulGroup.mul_assoc _ _ _
    _ = x⁻¹ * ((y * y⁻¹) * z) := by rw [LawfulGroup.mul_assoc y]
    _ = x⁻¹ * z := by rw [LawfulGroup.mul_inv_cancel, LawfulGroup.one_mul]

/-- identity, composition and inverse for the quotients `x⁻¹ * y` (the transform between two frames whose world
    matrices are `x` and `y`) -/
theorem g_inv_mul_laws (x y z : G) :
    x⁻¹ * x = 1 ∧ x⁻¹ * z = (x⁻¹ * y) * (y⁻¹ * z) ∧ x⁻¹ * y = (y⁻¹ * x)⁻¹ :=
  ⟨LawfulGroup.inv_mul_cancel x, (g_telescope x y z).symm, by rw [g_mul_inv_rev, g_inv_inv]⟩

end grp

/-! ### association-list lookups -/

theorem lookup_some_mem {α β : Type} [BEq α] [LawfulBEq α] {l : List (α × β)} {k : α} {v : β}
    (h : (l.find? (fun p => p.1 == k)).map (·.2) = some v) : (k, v) ∈ l := by
  obtain ⟨e, he, rfl⟩ := Option.map_eq_some_iff.mp h
  have hk : e.1 = k := by simpa using List.find?_some he
  exact hk ▸ List.mem_of_find?_eq_some he

theorem mem_of_find?_key {α β : Type} [BEq α] [LawfulBEq α] {l : List (α × β)} {k : α} {e : α × β}
    (h : l.find? (fun p => p.1 == k) = some e) : (k, e.2) ∈ l :=
  lookup_some_mem (congrArg (Option.map (·.2)) h)

theorem nodup_keys_filter {α β : Type} {l : List (α × β)} (p : α × β → Bool)
    (hn : (l.map (·.1)).Nodup) : ((l.filter p).map (·.1)).Nodup :=
  hn.sublist (List.filter_sublist.map _)

theorem lookup_of_mem_nodup {α β : Type} [BEq α] [LawfulBEq α] {l : List (α × β)} {k : α} {v : β}
    (hn : (l.map (·.1)).Nodup) (hm : (k, v) ∈ l) :
    (l.find? (fun p => p.1 == k)).map (·.2) = some v := by
  induction l with
  | nil => simp at hm
  | cons e t ih =>
    rw [List.map_cons, List.nodup_cons] at hn
    rcases List.mem_cons.mp hm with rfl | hm
    · simp
    · have hne : e.1 ≠ k := fun hek => hn.1 (List.mem_map.mpr ⟨_, hm, hek.symm⟩)
      simp [hne, ih hn.2 hm]

theorem lookup_congr {α β : Type} [BEq α] [LawfulBEq α] {l l' : List (α × β)}
    (hn : (l.map (·.1)).Nodup) (hn' : (l'.map (·.1)).Nodup) (h : ∀ e, e ∈ l' ↔ e ∈ l) (k : α) :
    (l'.find? (fun p => p.1 == k)).map (·.2) = (l.find? (fun p => p.1 == k)).map (·.2) :=
  Option.ext fun _ =>
    ⟨fun hq => lookup_of_mem_nodup hn ((h _).mp (lookup_some_mem hq)),
     fun hq => lookup_of_mem_nodup hn' ((h _).mpr (lookup_some_mem hq))⟩

theorem lookup_eq_none_iff {α β : Type} [BEq α] [LawfulBEq α] {l : List (α × β)} {k : α} :
    (l.find? (fun p => p.1 == k)).map (·.2) = none ↔ ∀ e ∈ l, e.1 ≠ k := by
  simp [List.find?_eq_none]

theorem lookup_none_imp {α β : Type} [BEq α] [LawfulBEq α] {l : List (α × β)} {k : α}
    (h : (l.find? (fun p => p.1 == k)).map (·.2) = none) : ∀ e ∈ l, e.1 ≠ k :=
  lookup_eq_none_iff.mp h

theorem parentOf_mem {f : Forest N G} {v p : N} (h : parentOf f v = some p) : (v, p) ∈ f.parents :=
  lookup_some_mem h

theorem parentOf_of_mem {f : Forest N G} {v p : N} (hn : (f.parents.map (·.1)).Nodup)
    (h : (v, p) ∈ f.parents) : parentOf f v = some p :=
  lookup_of_mem_nodup hn h

theorem edgeOf_mem {f : Forest N G} {u v : N} {g : G} (h : edgeOf f u v = some g) :
    ((u, v), g) ∈ f.edges :=
  lookup_some_mem h

theorem edgeOf_of_mem {f : Forest N G} {u v : N} {g : G} (hn : (f.edges.map (·.1)).Nodup)
    (h : ((u, v), g) ∈ f.edges) : edgeOf f u v = some g :=
  lookup_of_mem_nodup hn h

/-! ### well-formedness

`WFs f` is the structural part: one parent entry per child, one data entry per edge, and `parents` and the keys of
`edges` describe the same edges.  `Acyclic f`: some rank function is smaller at the parent than at the child, for every
parent entry.  The lemmas below take the two separately, since many need only one.  `WFr f rank` is both, with the rank
function named: `(∃ rank, WFr f rank) ↔ WFs f ∧ Acyclic f` by `WFr.toWFs`, `WFr.toAcyclic`, `WFs.toWFr`.  Only an
`update` that puts a node under itself or one of its descendants can close a cycle (`acyclic_addEdge`): `OpOK s op`
excludes that for one operation on the state `s`, and `Safe t s ops` says that every operation of a history is `OpOK`
on the state it is applied to. -/

structure WFs (f : Forest N G) : Prop where
  parents_nodup : (f.parents.map (·.1)).Nodup
  edges_nodup : (f.edges.map (·.1)).Nodup
  consistent : ∀ u v, (v, u) ∈ f.parents ↔ ∃ g, ((u, v), g) ∈ f.edges

def Acyclic (f : Forest N G) : Prop := ∃ rank : N → Nat, ∀ p ∈ f.parents, rank p.2 < rank p.1

structure WFr (f : Forest N G) (rank : N → Nat) : Prop where
  parents_nodup : (f.parents.map (·.1)).Nodup
  edges_nodup : (f.edges.map (·.1)).Nodup
  consistent : ∀ u v, (v, u) ∈ f.parents ↔ ∃ g, ((u, v), g) ∈ f.edges
  acyclic : ∀ p ∈ f.parents, rank p.2 < rank p.1

omit [DecidableEq N] in
theorem WFr.toWFs {f : Forest N G} {rank : N → Nat} (h : WFr f rank) : WFs f :=
  ⟨h.parents_nodup, h.edges_nodup, h.consistent⟩

omit [DecidableEq N] in
theorem WFr.toAcyclic {f : Forest N G} {rank : N → Nat} (h : WFr f rank) : Acyclic f :=
  ⟨rank, h.acyclic⟩

omit [DecidableEq N] in
theorem WFs.toWFr {f : Forest N G} {rank : N → Nat} (h : WFs f)
    (hr : ∀ p ∈ f.parents, rank p.2 < rank p.1) : WFr f rank :=
  ⟨h.parents_nodup, h.edges_nodup, h.consistent, hr⟩

theorem parentOf_of_edge {f : Forest N G} (h : WFs f) {u v : N} {g : G} (he : ((u, v), g) ∈ f.edges) :
    parentOf f v = some u :=
  parentOf_of_mem h.parents_nodup ((h.consistent u v).mpr ⟨g, he⟩)

/-- a child → parent step: no forward edge, the backward edge exists -/
theorem edges_of_parent {f : Forest N G} (h : WFs f) (hac : Acyclic f) {x p : N}
    (hp : parentOf f x = some p) : edgeOf f x p = none ∧ ∃ g, edgeOf f p x = some g := by
  have hm := parentOf_mem hp
  constructor
  · cases he : edgeOf f x p with
    | none => rfl
    | some g =>
      -- an edge `(x, p)` would make `x` the parent of `p` as well
      obtain ⟨rank, hr⟩ := hac
      have h1 := (h.consistent x p).mpr ⟨g, edgeOf_mem he⟩
      have := hr _ hm; have := hr _ h1
      simp only at *; omega
  · obtain ⟨g, hg⟩ := (h.consistent p x).mp hm
    exact ⟨g, edgeOf_of_mem h.edges_nodup hg⟩

/-! ### complete ancestor chains -/

/-- `Chain f x l`: `l` is `x, parent x, parent (parent x), …` up to a node without a parent.  `ancestors` with
    enough fuel computes it (`Chain.ancestors_eq`), and in an acyclic forest the model's fuel is enough (`chain_anc`) -/
inductive Chain (f : Forest N G) : N → List N → Prop
  | root {x : N} : parentOf f x = none → Chain f x [x]
  | step {x p : N} {l : List N} : parentOf f x = some p → Chain f p l → Chain f x (x :: l)

theorem Chain.head {f : Forest N G} {x : N} {l : List N} (h : Chain f x l) : ∃ t, l = x :: t := by
  cases h with
  | root _ => exact ⟨[], rfl⟩
  | step _ _ => exact ⟨_, rfl⟩

theorem Chain.unique {f : Forest N G} {x : N} {l₁ l₂ : List N} (h₁ : Chain f x l₁)
    (h₂ : Chain f x l₂) : l₁ = l₂ := by
  induction h₁ generalizing l₂ with
  | root hx =>
    cases h₂ with
    | root _ => rfl
    | step hp _ => rw [hx] at hp; cases hp
  | step hp _ ih =>
    cases h₂ with
    | root hx => rw [hx] at hp; cases hp
    | step hp' hc =>
      rw [hp] at hp'; cases hp'
      rw [ih hc]

theorem ancestors_head (f : Forest N G) (n : Nat) (x : N) : ∃ t, ancestors f n x = x :: t := by
  cases n with
  | zero => exact ⟨[], rfl⟩
  | succ n => simp only [ancestors]; split <;> exact ⟨_, rfl⟩

theorem ancestors_of_no_parent {f : Forest N G} {u : N} (hp : parentOf f u = none) (n : Nat) :
    ancestors f n u = [u] := by
  cases n <;> simp [ancestors, hp]

theorem Chain.ancestors_eq {f : Forest N G} {x : N} {l : List N} (h : Chain f x l) :
    ∀ n, l.length ≤ n + 1 → ancestors f n x = l := by
  induction h with
  | root hx => exact fun n _ => ancestors_of_no_parent hx n
  | @step x p l hp hc ih =>
    intro n hn
    cases n with
    | zero =>
      obtain ⟨t, rfl⟩ := hc.head
      simp at hn
    | succ n =>
      simp only [List.length_cons] at hn
      simp [ancestors, hp, ih n (by omega)]

/-- under acyclicity every node has a complete chain; its members below the root are distinct children -/
theorem chain_exists {f : Forest N G} {rank : N → Nat}
    (hac : ∀ p ∈ f.parents, rank p.2 < rank p.1) (x : N) :
    ∃ k r, Chain f x (k ++ [r]) ∧ k.Nodup ∧ ∀ y ∈ k, y ∈ f.parents.map (·.1) ∧ rank y ≤ rank x := by
  induction hr : rank x using Nat.strongRecOn generalizing x with
  | _ r ih =>
    cases hp : parentOf f x with
    | none => exact ⟨[], x, .root hp, List.nodup_nil, by simp⟩
    | some p =>
      have hlt : rank p < rank x := hac _ (parentOf_mem hp)
      obtain ⟨k, r', hc, hk, hsub⟩ := ih (rank p) (hr ▸ hlt) p rfl
      refine ⟨x :: k, r', .step hp hc, List.nodup_cons.mpr ⟨fun hx => ?_, hk⟩, fun y hy => ?_⟩
      · have := (hsub x hx).2
        omega
      · rcases List.mem_cons.mp hy with rfl | hy
        · exact ⟨List.mem_map.mpr ⟨_, parentOf_mem hp, rfl⟩, Nat.le_of_eq hr⟩
        · have := (hsub y hy).2
          exact ⟨(hsub y hy).1, by omega⟩

abbrev anc (f : Forest N G) (x : N) : List N := ancestors f f.parents.length x

/-- the model's fuel suffices: there are at most `f.parents.length` distinct children -/
theorem chain_anc {f : Forest N G} (hac : Acyclic f) (x : N) : Chain f x (anc f x) := by
  obtain ⟨rank, hac⟩ := hac
  obtain ⟨k, r, hc, hk, hsub⟩ := chain_exists hac x
  have hlen := List.Nodup.length_le_of_subset hk (fun y hy => (hsub y hy).1)
  rw [show anc f x = k ++ [r] from hc.ancestors_eq _ (by simpa using hlen)]
  exact hc

/-- (the proof does not use `hac`) -/
theorem anc_root {f : Forest N G} {rank : N → Nat}
    (hac : ∀ p ∈ f.parents, rank p.2 < rank p.1) {x : N} (hp : parentOf f x = none) :
    anc f x = [x] :=
  ancestors_of_no_parent hp _

theorem anc_step {f : Forest N G} (hac : Acyclic f) {x p : N} (hp : parentOf f x = some p) :
    anc f x = x :: anc f p :=
  (chain_anc hac x).unique (.step hp (chain_anc hac p))

theorem Chain.congr {f f' : Forest N G} (h : ∀ x, parentOf f' x = parentOf f x) {x : N} {l : List N}
    (hc : Chain f x l) : Chain f' x l := by
  induction hc with
  | root hx => exact .root ((h _).trans hx)
  | step hp _ ih => exact .step ((h _).trans hp) ih

theorem anc_congr {f f' : Forest N G} (hac : Acyclic f) (hac' : Acyclic f')
    (h : ∀ x, parentOf f' x = parentOf f x) (x : N) : anc f' x = anc f x :=
  (chain_anc hac' x).unique ((chain_anc hac x).congr h)

theorem self_mem_anc (f : Forest N G) (x : N) : x ∈ anc f x := by
  obtain ⟨t, ht⟩ := ancestors_head f f.parents.length x
  rw [anc, ht]
  exact List.mem_cons_self

/-! ### world matrices: the product down the ancestor chain, and the step equation -/
section world
variable [Mul G] [One G] [Inv G]

abbrev worldOf (f : Forest N G) (x : N) : G := world f f.parents.length x

omit [Inv G] in
theorem world_root {f : Forest N G} {x : N} (hp : parentOf f x = none) (n : Nat) :
    world f n x = 1 := by
  cases n <;> simp [world, hp]

def chainProduct (f : Forest N G) : List N → G
  | v :: p :: t => match edgeOf f p v with
    | some g => chainProduct f (p :: t) * g
    | none => chainProduct f (p :: t)
  | _ => 1

omit [Inv G] in
theorem world_eq_chainProduct (f : Forest N G) : ∀ n x, world f n x = chainProduct f (ancestors f n x)
  | 0, _ => rfl
  | n + 1, x => by
    cases hp : parentOf f x with
    | none => simp [world, ancestors, hp, chainProduct]
    | some p =>
      obtain ⟨t, ht⟩ := ancestors_head f n p
      simp only [world, ancestors, hp]
      rw [world_eq_chainProduct f n p, ht]
      rfl

omit [Inv G] in
theorem world_parent {f : Forest N G} (hac : Acyclic f) {x p : N} (hp : parentOf f x = some p) :
    worldOf f x =
      match edgeOf f p x with
      | some g => worldOf f p * g
      | none => worldOf f p := by
  obtain ⟨t, ht⟩ := ancestors_head f f.parents.length p
  unfold worldOf
  rw [world_eq_chainProduct, world_eq_chainProduct,
    show ancestors f f.parents.length x = x :: anc f p from anc_step hac hp]
  simp only [anc, ht, chainProduct]

omit [Inv G] in
theorem world_edge {f : Forest N G} (h : WFs f) (hac : Acyclic f) {u v : N} {g : G}
    (he : ((u, v), g) ∈ f.edges) : worldOf f v = worldOf f u * g := by
  rw [world_parent hac (parentOf_of_edge h he), edgeOf_of_mem h.edges_nodup he]

end world

/-! ### products along paths -/
section paths
variable [Mul G] [One G] [Inv G]

theorem pathProduct_cons_cons (f : Forest N G) (a b : N) (t : List N) :
    pathProduct f (a :: b :: t) =
      (stepMatrix f a b).bind fun m => (pathProduct f (b :: t)).bind fun r => some (m * r) := rfl

variable [LawfulGroup G]

theorem pathProduct_append (f : Forest N G) (x : N) (l₂ : List N) : ∀ l₁ : List N,
    pathProduct f (l₁ ++ x :: l₂) =
      (pathProduct f (l₁ ++ [x])).bind fun m₁ => (pathProduct f (x :: l₂)).map (m₁ * ·)
  | [] => by simp [pathProduct, LawfulGroup.one_mul]
  | [a] => by
    simp [pathProduct, pathProduct_cons_cons, LawfulGroup.mul_one, Option.map_eq_bind,
      Function.comp_def]
  | a :: b :: t => by
    have ih := pathProduct_append f x l₂ (b :: t)
    simp only [List.cons_append, pathProduct_cons_cons] at ih ⊢
    simp [ih, Option.map_eq_bind, Function.comp_def, Option.bind_assoc, LawfulGroup.mul_assoc]

theorem stepMatrix_swap {f : Forest N G} (h : WFs f) (hac : Acyclic f) (a b : N) :
    stepMatrix f b a = (stepMatrix f a b).map (·⁻¹) := by
  unfold stepMatrix
  cases hab : edgeOf f a b with
  | some g =>
    -- `a` is the parent of `b`, so there is no edge `(b, a)`
    have hp := parentOf_of_edge h (edgeOf_mem hab)
    simp [(edges_of_parent h hac hp).1]
  | none => cases edgeOf f b a <;> simp [g_inv_inv]

theorem pathProduct_reverse {f : Forest N G} (h : WFs f) (hac : Acyclic f) :
    ∀ l : List N, pathProduct f l.reverse = (pathProduct f l).map (·⁻¹)
  | [] => by simp [pathProduct, g_inv_one]
  | [_] => by simp [pathProduct, g_inv_one]
  | a :: b :: t => by
    have ih := pathProduct_reverse h hac (b :: t)
    rw [List.reverse_cons] at ih
    rw [List.reverse_cons, List.reverse_cons, List.append_assoc, List.singleton_append,
      pathProduct_append, ih, pathProduct_cons_cons]
    cases hs : stepMatrix f a b <;> cases hr : pathProduct f (b :: t) <;>
      simp [pathProduct, stepMatrix_swap h hac a b, hs, hr, g_mul_inv_rev, LawfulGroup.mul_one]

theorem takeWhile_ne_head {x link : N} (t : List N) :
    ∃ r, (x :: t).takeWhile (· != link) ++ [link] = x :: r := by
  by_cases h : x = link
  · subst h; exact ⟨[], by simp⟩
  · exact ⟨t.takeWhile (· != link) ++ [link], by simp [h]⟩

theorem pathProduct_up {f : Forest N G} (h : WFs f) (hac : Acyclic f) {a link : N}
    {l : List N} (hc : Chain f a l) (hl : link ∈ l) :
    pathProduct f (l.takeWhile (· != link) ++ [link]) = some ((worldOf f a)⁻¹ * worldOf f link) := by
  induction hc with
  | @root x hx =>
    obtain rfl := List.mem_singleton.mp hl
    simp [pathProduct, LawfulGroup.inv_mul_cancel]
  | @step x p l hp hc ih =>
    by_cases hxl : x = link
    · subst hxl
      simp [pathProduct, LawfulGroup.inv_mul_cancel]
    · have ih := ih ((List.mem_cons.mp hl).resolve_left (Ne.symm hxl))
      obtain ⟨t, rfl⟩ := hc.head
      obtain ⟨r, hr⟩ := takeWhile_ne_head (x := p) (link := link) t
      obtain ⟨he1, g, he2⟩ := edges_of_parent h hac hp
      have hw := world_parent hac hp
      rw [he2] at hw
      rw [List.takeWhile_cons_of_pos (by simpa using hxl), List.cons_append, hr,
        pathProduct_cons_cons, ← hr, ih]
      simp only [stepMatrix, he1, he2, Option.map_some, Option.bind_some]
      rw [hw, g_mul_inv_rev, LawfulGroup.mul_assoc]

/-- walking down from an ancestor `link` to `b`: the way up, backwards -/
theorem pathProduct_down {f : Forest N G} (h : WFs f) (hac : Acyclic f) {b link : N}
    {l : List N} (hc : Chain f b l) (hl : link ∈ l) :
    pathProduct f (link :: (l.takeWhile (· != link)).reverse) = some ((worldOf f link)⁻¹ * worldOf f b) := by
  have := pathProduct_reverse h hac (l.takeWhile (· != link) ++ [link])
  rwa [pathProduct_up h hac hc hl, List.reverse_append, List.reverse_singleton, List.singleton_append,
    Option.map_some, g_mul_inv_rev, g_inv_inv] at this

/-- any common ancestor gives the product `world(a)⁻¹ · world(b)` -/
theorem pathProduct_updown {f : Forest N G} (h : WFs f) (hac : Acyclic f) {a b link : N}
    (ha : link ∈ anc f a) (hb : link ∈ anc f b) :
    pathProduct f ((anc f a).takeWhile (· != link) ++ [link] ++
        ((anc f b).takeWhile (· != link)).reverse) = some ((worldOf f a)⁻¹ * worldOf f b) := by
  have h1 := pathProduct_up h hac (chain_anc hac a) ha
  have h2 := pathProduct_down h hac (chain_anc hac b) hb
  rw [List.append_assoc, List.singleton_append, pathProduct_append, h1, h2, Option.bind_some,
    Option.map_some, g_telescope]

end paths

/-! ### roots and the specification of `getRaw` -/

theorem rootOf_parent {f : Forest N G} (hac : Acyclic f) {x p : N} (hp : parentOf f x = some p) :
    rootOf f x = rootOf f p := by
  obtain ⟨t, ht⟩ := ancestors_head f f.parents.length p
  rw [rootOf, rootOf, show ancestors f f.parents.length x = x :: anc f p from anc_step hac hp, anc, ht]
  rfl

theorem Chain.rootOf_eq {f : Forest N G} (hac : Acyclic f) {x : N} {l : List N} (h : Chain f x l) :
    ∀ y ∈ l, rootOf f y = rootOf f x := by
  induction h with
  | root _ => simp
  | step hp _ ih =>
    intro y hy
    rcases List.mem_cons.mp hy with rfl | hy
    · rfl
    · rw [ih y hy, rootOf_parent hac hp]

theorem rootOf_eq_of_common {f : Forest N G} (hac : Acyclic f) {a b link : N}
    (ha : link ∈ anc f a) (hb : link ∈ anc f b) : rootOf f a = rootOf f b :=
  ((chain_anc hac a).rootOf_eq hac link ha).symm.trans ((chain_anc hac b).rootOf_eq hac link hb)

theorem rootOf_mem {f : Forest N G} (a : N) : rootOf f a ∈ anc f a := by
  have hne : anc f a ≠ [] := List.ne_nil_of_mem (self_mem_anc f a)
  rw [rootOf, List.getLastD_eq_getLast?, List.getLast?_eq_some_getLast hne]
  exact List.getLast_mem hne

section roots
variable [Mul G] [One G] [Inv G] [LawfulGroup G]

/-- the path `shortest_path` finds (up to the first common ancestor, then down) multiplies out to
    `world(a)⁻¹ · world(b)`, and there is a path exactly when `a` and `b` have the same root -/
theorem pathTo_product {f : Forest N G} (h : WFs f) (hac : Acyclic f) (a b : N) :
    (pathTo f a b).bind (pathProduct f) =
      if rootOf f a = rootOf f b then some ((worldOf f a)⁻¹ * worldOf f b) else none := by
  unfold pathTo
  simp only
  cases hf : (anc f a).find? (fun x => (anc f b).contains x) with
  | none =>
    -- the two chains do not meet, so their last members differ
    rw [if_neg fun hr => List.find?_eq_none.mp hf _ (rootOf_mem a)
      (by simpa [hr] using rootOf_mem (f := f) b)]
    rfl
  | some link =>
    have ha := List.mem_of_find?_eq_some hf
    have hb : link ∈ anc f b := by simpa using List.find?_some hf
    rw [if_pos (rootOf_eq_of_common hac ha hb)]
    exact pathProduct_updown h hac ha hb

/-- **the specification of the cache-free query**: in a well-formed acyclic forest `getRaw` (identity, a stored
    edge, or the product along `pathTo`) is `world(a)⁻¹ · world(b)` for frames of one tree and "no path" otherwise -/
theorem getRaw_spec {f : Forest N G} (h : WFs f) (hac : Acyclic f) (a b : N) :
    getRaw f a b = if rootOf f a = rootOf f b then some ((worldOf f a)⁻¹ * worldOf f b) else none := by
  unfold getRaw
  by_cases hab : a = b
  · subst hab; simp [LawfulGroup.inv_mul_cancel]
  · rw [if_neg hab]
    cases he : edgeOf f a b with
    | some g =>
      have hm := edgeOf_mem he
      have hp := parentOf_of_edge h hm
      simp only [rootOf_parent hac hp, if_true]
      rw [world_edge h hac hm, ← LawfulGroup.mul_assoc, LawfulGroup.inv_mul_cancel, LawfulGroup.one_mul]
    | none => exact pathTo_product h hac a b

theorem pathProduct_reverse_pathTo {f : Forest N G} (h : WFs f) (hac : Acyclic f) (a b : N)
    {p : List N} (hp : pathTo f b a = some p) :
    pathProduct f p.reverse = (pathTo f a b).bind (pathProduct f) := by
  have hba := pathTo_product h hac b a
  rw [hp, Option.bind_some] at hba
  rw [pathProduct_reverse h hac, hba, pathTo_product h hac a b]
  by_cases hr : rootOf f a = rootOf f b
  · simp [hr, g_mul_inv_rev, g_inv_inv]
  · simp [hr, Ne.symm hr]

end roots

/-! ### well-formedness is preserved -/

omit [DecidableEq N] in
theorem wfs_empty : WFs (Forest.empty : Forest N G) :=
  ⟨by simp [Forest.empty], by simp [Forest.empty], by simp [Forest.empty]⟩

omit [DecidableEq N] in
theorem acyclic_empty : Acyclic (Forest.empty : Forest N G) :=
  ⟨fun _ => 0, by simp [Forest.empty]⟩

theorem removeNode_parents_subset (f : Forest N G) (u : N) :
    ∀ p ∈ (removeNode f u).parents, p ∈ f.parents := by
  intro p hp
  unfold removeNode at hp
  split at hp
  · exact hp
  · exact (List.mem_filter.mp hp).1

theorem wfs_removeNode {f : Forest N G} (h : WFs f) (u : N) : WFs (removeNode f u) := by
  unfold removeNode
  split
  · exact h
  · refine ⟨nodup_keys_filter _ h.parents_nodup, nodup_keys_filter _ h.edges_nodup, fun x y => ?_⟩
    simp only [List.mem_filter, h.consistent x y, Bool.and_eq_true, bne_iff_ne, ne_eq, exists_and_right,
      and_comm (a := ¬y = u)]

theorem acyclic_removeNode {f : Forest N G} (hac : Acyclic f) (u : N) : Acyclic (removeNode f u) :=
  hac.imp fun _ hr p hp => hr p (removeNode_parents_subset f u p hp)

theorem addEdge_parents (f : Forest N G) (u v : N) (g : G) :
    (addEdge f u v g).parents = (v, u) :: f.parents.filter (fun p => p.1 != v) := rfl

/-- when `v` has no parent other than `q`, the edge `(q, v)` is the only one into `v` -/
theorem filter_key_ne {f : Forest N G} (h : WFs f) {q v : N}
    (hq : parentOf f v = none ∨ parentOf f v = some q) :
    f.edges.filter (fun e => e.1 != (q, v)) = f.edges.filter (fun e => e.1.2 != v) := by
  refine List.filter_congr fun ⟨⟨x, y⟩, g'⟩ he => ?_
  by_cases hy : y = v
  · subst hy
    rw [parentOf_of_edge h he] at hq
    simp [show x = q by simpa using hq]
  · rw [Bool.eq_iff_iff]; simp [hy]

/-- on a well-formed forest `add_edge(u, v)` drops every edge into the child `v` (there is at most one,
    from the parent of `v`) and puts the new one in front -/
theorem addEdge_edges {f : Forest N G} (h : WFs f) (u v : N) (g : G) :
    (addEdge f u v g).edges = ((u, v), g) :: f.edges.filter (fun e => e.1.2 != v) := by
  unfold addEdge
  simp only [List.cons.injEq, true_and]
  split
  · rename_i p hp
    split
    · -- the edges that are left do not go into `v`, so none of them is `(u, v)`
      rw [filter_key_ne h (.inr hp), List.filter_filter]
      exact List.filter_congr fun e _ => by rw [Bool.eq_iff_iff]; simp +contextual [Prod.ext_iff]
    · rename_i hpu
      exact filter_key_ne h (.inr (Decidable.not_not.mp hpu ▸ hp))
  · rename_i hp
    exact filter_key_ne h (.inl hp)

theorem wfs_addEdge {f : Forest N G} (h : WFs f) (u v : N) (g : G) : WFs (addEdge f u v g) := by
  refine ⟨?_, ?_, fun x y => ?_⟩
  · rw [addEdge_parents, List.map_cons, List.nodup_cons]
    refine ⟨?_, nodup_keys_filter _ h.parents_nodup⟩
    simp [List.mem_map, List.mem_filter]
  · rw [addEdge_edges h, List.map_cons, List.nodup_cons]
    refine ⟨?_, nodup_keys_filter _ h.edges_nodup⟩
    simp [List.mem_map, List.mem_filter]
  · simp only [addEdge_parents, addEdge_edges h, List.mem_cons, List.mem_filter, Prod.mk.injEq,
      bne_iff_ne, ne_eq, h.consistent x y, exists_or, exists_and_right, exists_eq_right, and_comm (a := y = v)]

theorem addEdge_of_fresh {f : Forest N G} (h : WFs f) (u v : N) (g : G)
    (hv : v ∉ f.edges.map (·.1.2)) :
    (addEdge f u v g).parents = (v, u) :: f.parents ∧
    (addEdge f u v g).edges = ((u, v), g) :: f.edges := by
  rw [addEdge_parents, addEdge_edges h, List.filter_eq_self.mpr, List.filter_eq_self.mpr]
  · exact ⟨rfl, rfl⟩
  · intro e he
    simpa using fun hev : e.1.2 = v => hv (List.mem_map.mpr ⟨e, he, hev⟩)
  · intro ⟨c, p⟩ hp
    obtain ⟨g', hg'⟩ := (h.consistent p c).mp hp
    simpa using fun hcv : c = v => hv (List.mem_map.mpr ⟨_, hg', hcv⟩)

/-- putting `v` under a `u` that is not below `v` closes no cycle: a rank function for the new forest lifts the
    ranks of `v` and its descendants above the rank of `u` -/
theorem acyclic_addEdge {f : Forest N G} (h : WFs f) (hac : Acyclic f) (u v : N) (g : G)
    (hc : v ∉ anc f u) : Acyclic (addEdge f u v g) := by
  have ⟨rank, hr⟩ := hac
  refine ⟨fun x => rank x + if v ∈ anc f x then rank u + 1 else 0, fun p hp => ?_⟩
  rw [addEdge_parents] at hp
  rcases List.mem_cons.mp hp with rfl | hp
  · simp only [if_neg hc, if_pos (self_mem_anc f v)]
    omega
  · obtain ⟨c, q⟩ := p
    obtain ⟨hp, hne⟩ := List.mem_filter.mp hp
    have hvc : v ≠ c := fun e => by simp [e] at hne
    have hlt := hr _ hp
    -- `c ≠ v` is lifted exactly when its parent `q` is
    simp only [anc_step hac (parentOf_of_mem h.parents_nodup hp), List.mem_cons, hvc,
      false_or] at hlt ⊢
    omega

/-! ### removal disconnects, updates are visible -/

theorem not_mem_ancestors {f : Forest N G} {u : N} (hpar : ∀ p ∈ f.parents, p.2 ≠ u) :
    ∀ (n : Nat) (w : N), w ≠ u → u ∉ ancestors f n w := by
  intro n
  induction n with
  | zero => intro w hw; simp [ancestors, Ne.symm hw]
  | succ n ih =>
    intro w hw
    simp only [ancestors]
    split
    · rename_i p hp
      have := hpar _ (parentOf_mem hp)
      simp only [List.mem_cons, not_or]
      exact ⟨Ne.symm hw, ih p this⟩
    · simp [Ne.symm hw]

section vis
variable [Mul G] [One G] [Inv G]

theorem getRaw_removeNode {f : Forest N G} {u w : N} (hne : u ≠ w) (hn : hasNode f u = true) :
    getRaw (removeNode f u) u w = none := by
  have hpar : ∀ p ∈ (removeNode f u).parents, p.1 ≠ u ∧ p.2 ≠ u := fun p hp => by
    simp [removeNode, hn] at hp
    exact hp.2
  have hpu : parentOf (removeNode f u) u = none := lookup_eq_none_iff.mpr fun p hp => (hpar p hp).1
  have heu : edgeOf (removeNode f u) u w = none := lookup_eq_none_iff.mpr fun e he hk => by
    simp [removeNode, hn, hk] at he
  have hnm := not_mem_ancestors (fun p hp => (hpar p hp).2) (removeNode f u).parents.length w (Ne.symm hne)
  unfold getRaw pathTo
  rw [if_neg hne, heu]
  -- `u` has no parent, so its chain is `[u]`, and the chain of `w` avoids `u`: the two chains do not meet
  simp [ancestors_of_no_parent hpu, hnm]

theorem getRaw_addEdge {f : Forest N G} {u v : N} (g : G) (hne : u ≠ v) :
    getRaw (addEdge f u v g) u v = some g := by
  unfold getRaw
  rw [if_neg hne]
  simp [edgeOf, addEdge]

end vis

/-! ### overwriting an existing edge does not change any path -/

theorem parentOf_addEdge (f : Forest N G) (u v : N) (g : G) (x : N) :
    parentOf (addEdge f u v g) x = if x = v then some u else parentOf f x := by
  unfold parentOf
  rw [addEdge_parents]
  by_cases hx : x = v
  · subst hx; simp
  · rw [if_neg hx, List.find?_cons_of_neg (by simpa using Ne.symm hx), List.find?_filter]
    congr 2
    funext a
    by_cases h : a.1 = x
    · simp [h, hx]
    · simp [h]

theorem pathTo_congr {f f' : Forest N G} (hac : Acyclic f) (hac' : Acyclic f')
    (h : ∀ x, parentOf f' x = parentOf f x) (a b : N) : pathTo f' a b = pathTo f a b := by
  unfold pathTo
  simp only [show ∀ x, ancestors f' f'.parents.length x = anc f x from anc_congr hac hac' h]

theorem pathTo_addEdge_of_edge {f : Forest N G} (h : WFs f) (hac : Acyclic f) {u v : N} {g g₀ : G}
    (hac' : Acyclic (addEdge f u v g)) (he : edgeOf f u v = some g₀) (a b : N) :
    pathTo (addEdge f u v g) a b = pathTo f a b := by
  refine pathTo_congr hac hac' (fun x => ?_) a b
  rw [parentOf_addEdge]
  split
  · rename_i hx; rw [hx, parentOf_of_edge h (edgeOf_mem he)]
  · rfl

/-! ### cache coherence -/
section cache
variable [Mul G] [One G] [Inv G] [LawfulGroup G] [DecidableEq G]

/-- the forest is well formed and acyclic, and what the caches hold is correct for it: the hash memo, when set, is
    the current forest; a cached path is the path a fresh walk finds; and the transform cache, when stamped with a
    forest, holds the answers of the cache-free query on that forest -/
structure CacheInv (s : Graph N G) : Prop where
  wfs : WFs s.forest
  acyclic : Acyclic s.forest
  memo : s.hashMemo = none ∨ s.hashMemo = some s.forest
  paths : ∀ e ∈ s.pathCache, pathTo s.forest e.1.1 e.1.2 = some e.2
  xs : ∀ h, s.xCacheId = some h → ∀ e ∈ s.xCache, e.2 = getRaw h e.1.1 e.1.2

omit [LawfulGroup G] [DecidableEq G] in
theorem cacheInv_init (base : N) : CacheInv (Graph.init base : Graph N G) :=
  ⟨wfs_empty, acyclic_empty, Or.inl rfl, by simp [Graph.init], by simp [Graph.init]⟩

omit [DecidableEq N] [Mul G] [One G] [Inv G] [LawfulGroup G] [DecidableEq G] in
theorem currentHash_eq {s : Graph N G} (hm : s.hashMemo = none ∨ s.hashMemo = some s.forest) :
    currentHash s = (s.forest, { s with hashMemo := some s.forest }) := by
  obtain ⟨f, b, m, pc, xc, xi⟩ := s
  unfold currentHash
  rcases hm with h | h <;> simp only at h <;> subst h <;> rfl

omit [DecidableEq G] in
theorem cachedPath_spec {s : Graph N G} (hw : WFs s.forest) (hac : Acyclic s.forest)
    (hp : ∀ e ∈ s.pathCache, pathTo s.forest e.1.1 e.1.2 = some e.2)
    (a b : N) : ∃ r pc, cachedPath s a b = (r, { s with pathCache := pc }) ∧
      (∀ e ∈ pc, pathTo s.forest e.1.1 e.1.2 = some e.2) ∧
      r.bind (pathProduct s.forest) = (pathTo s.forest a b).bind (pathProduct s.forest) := by
  fun_cases cachedPath s a b
  case case1 e he => exact ⟨_, _, rfl, hp, by rw [hp _ (mem_of_find?_key he)]⟩
  case case2 e _ he =>
    exact ⟨_, _, rfl, hp, pathProduct_reverse_pathTo hw hac a b (hp _ (mem_of_find?_key he))⟩
  case case3 p _ _ hpath => exact ⟨_, _, rfl, List.forall_mem_cons.mpr ⟨hpath, hp⟩, by rw [hpath]⟩
  case case4 _ _ hpath => exact ⟨_, _, rfl, hp, by rw [hpath]⟩

/-- a query answers as the cache-free resolution does, and every step of it (`__hash__`,
    `Cache.verify()`, the cached `shortest_path`, storing the result) is `s` with one cache field
    replaced, so the state it leaves is `s` with refreshed caches that are correct for `s.forest` -/
theorem doGet_eq {s : Graph N G} (hinv : CacheInv s) (a b : N) :
    ∃ pc xc, doGet s a b = (getRaw s.forest a b, { s with
        hashMemo := some s.forest, pathCache := pc, xCache := xc, xCacheId := some s.forest }) ∧
      (∀ e ∈ pc, pathTo s.forest e.1.1 e.1.2 = some e.2) ∧
      ∀ e ∈ xc, e.2 = getRaw s.forest e.1.1 e.1.2 := by
  -- after `Cache.verify()` the transform cache is stamped with the current forest
  obtain ⟨xc, hxc, hv⟩ : ∃ xc, (∀ e ∈ xc, e.2 = getRaw s.forest e.1.1 e.1.2) ∧
      (if s.xCacheId == some s.forest then { s with hashMemo := some s.forest }
        else { s with hashMemo := some s.forest, xCache := [], xCacheId := some s.forest }) =
      { s with hashMemo := some s.forest, xCache := xc, xCacheId := some s.forest } := by
    by_cases hid : s.xCacheId = some s.forest
    · exact ⟨s.xCache, hinv.xs _ hid, by simp [hid]⟩
    · exact ⟨[], by simp, by simp [hid]⟩
  unfold doGet
  rw [currentHash_eq hinv.memo]
  simp only
  rw [hv]
  simp only
  split
  · rename_i e he
    refine ⟨_, _, ?_, hinv.paths, hxc⟩
    rw [hxc _ (mem_of_find?_key he)]
  · -- the cache-miss branch resolves as `getRaw` does and only extends the path cache
    generalize hrs : (ite (a = b) _ _ : Option G × Graph N G) = rs
    obtain ⟨pc, hpc, rfl⟩ : ∃ pc, (∀ e ∈ pc, pathTo s.forest e.1.1 e.1.2 = some e.2) ∧
        rs = (getRaw s.forest a b, { s with
          hashMemo := some s.forest, pathCache := pc, xCache := xc, xCacheId := some s.forest }) := by
      subst hrs
      unfold getRaw
      split
      · exact ⟨_, hinv.paths, rfl⟩
      · split
        · exact ⟨_, hinv.paths, rfl⟩
        · obtain ⟨r, pc, h1, h2, h3⟩ := cachedPath_spec (s := { s with
            hashMemo := some s.forest, xCache := xc, xCacheId := some s.forest })
            hinv.wfs hinv.acyclic hinv.paths a b
          rw [h1]
          exact ⟨pc, h2, by rw [← h3]⟩
    simp only
    split
    · rename_i g hg
      exact ⟨pc, _, by rw [hg], hpc, List.forall_mem_cons.mpr ⟨hg.symm, hxc⟩⟩
    · rename_i hg
      exact ⟨pc, xc, by rw [hg], hpc, hxc⟩

theorem doGet_spec {s : Graph N G} (hinv : CacheInv s) (a b : N) :
    (doGet s a b).1 = getRaw s.forest a b ∧ CacheInv (doGet s a b).2 := by
  obtain ⟨pc, xc, h, hpc, hxc⟩ := doGet_eq hinv a b
  rw [h]
  exact ⟨rfl, hinv.wfs, hinv.acyclic, Or.inr rfl, hpc, fun _ hh => by cases hh; exact hxc⟩

omit [DecidableEq N] [Mul G] [One G] [Inv G] [LawfulGroup G] [DecidableEq G] in
theorem InvalTable.ok_eq {t : InvalTable} (ht : t.ok = true) : t = ⟨true, true, true, true, true⟩ := by
  obtain ⟨t1, t2, t3, t4, t5⟩ := t
  simp only [InvalTable.ok, Bool.and_eq_true] at ht
  obtain ⟨⟨⟨⟨rfl, rfl⟩, rfl⟩, rfl⟩, rfl⟩ := ht
  rfl

omit [LawfulGroup G] [DecidableEq G] in
theorem doAddEdge_inv {t : InvalTable} (ht : t.ok = true) {s : Graph N G} (hinv : CacheInv s)
    {u v : N} {g : G} (hac : Acyclic (addEdge s.forest u v g)) : CacheInv (doAddEdge t s u v g) := by
  obtain rfl := InvalTable.ok_eq ht
  unfold doAddEdge
  refine ⟨wfs_addEdge hinv.wfs u v g, hac, Or.inl rfl, ?_, hinv.xs⟩
  simp only [Bool.and_true]
  cases he : edgeOf s.forest u v with
  | none => simp
  | some g₀ =>
    simp only [Option.isNone_some, Bool.false_eq_true, if_false]
    intro e hm
    rw [pathTo_addEdge_of_edge hinv.wfs hinv.acyclic hac he]
    exact hinv.paths e hm

omit [LawfulGroup G] [DecidableEq G] in
theorem doRemoveNode_inv {t : InvalTable} (ht : t.ok = true) {s : Graph N G} (hinv : CacheInv s)
    (u : N) : CacheInv (doRemoveNode t s u) := by
  obtain rfl := InvalTable.ok_eq ht
  unfold doRemoveNode
  split
  · exact hinv
  · exact ⟨wfs_removeNode hinv.wfs u, acyclic_removeNode hinv.acyclic u, Or.inl rfl, by simp, hinv.xs⟩

def OpOK (s : Graph N G) : Op N G → Prop
  | .update v u _ => v ∉ anc s.forest u
  | .updateBase v _ => v ∉ anc s.forest s.base
  | _ => True

/-- every operation keeps the caches correct, provided the forest stays acyclic.  Only the two `update` cases read
    `hok`, and either half of it gives them that: the new forest is acyclic by assumption (`cacheInv_run_of_acyclic`),
    or the update is `OpOK` and closes no cycle (`cacheInv_run_of_safe`) -/
theorem step_inv {t : InvalTable} (ht : t.ok = true) {s : Graph N G} (hinv : CacheInv s)
    (op : Op N G) (hok : OpOK s op ∨ Acyclic (step t s op).2.forest) : CacheInv (step t s op).2 := by
  cases op with
  | update v u g =>
    exact doAddEdge_inv ht hinv (hok.elim (acyclic_addEdge hinv.wfs hinv.acyclic u v g) id)
  | updateBase v g =>
    exact doAddEdge_inv ht hinv (hok.elim (acyclic_addEdge hinv.wfs hinv.acyclic s.base v g) id)
  | removeNode u => exact doRemoveNode_inv ht hinv u
  | setBase b => exact ⟨hinv.wfs, hinv.acyclic, hinv.memo, hinv.paths, hinv.xs⟩
  | clear =>
    obtain rfl := InvalTable.ok_eq ht
    exact cacheInv_init s.base
  | get b a => exact (doGet_spec hinv a b).2
  | getBase b => exact (doGet_spec hinv s.base b).2

end cache

/-! ### the cached query agrees with the cache-free one on acyclic histories -/
section final
variable [Mul G] [One G] [Inv G] [LawfulGroup G] [DecidableEq G]

theorem cacheInv_run_of_acyclic {t : InvalTable} (ht : t.ok = true) (ops : List (Op N G)) (s : Graph N G)
    (hinv : CacheInv s) (hac : ∀ k, Acyclic (run t s (ops.take k)).forest) :
    CacheInv (run t s ops) := by
  induction ops generalizing s with
  | nil => exact hinv
  | cons op ops ih => exact ih _ (step_inv ht hinv op (.inr (hac 1))) fun k => hac (k + 1)

/-- cache coherence for every history in which the forest is acyclic after each operation (the unconditional
    statement is false: `update` makes no cycle check, and on a cycle of four frames the reverse of a cached path is
    not the path a fresh walk finds) -/
theorem cached_get_eq_raw_of_acyclic (t : InvalTable) (ht : t.ok = true) (base : N)
    (ops : List (Op N G))
    (hac : ∀ k, Acyclic (run t (Graph.init base) (ops.take k)).forest) (a b : N) :
    (doGet (run t (Graph.init base) ops) a b).1 = getRaw (run t (Graph.init base) ops).forest a b :=
  (doGet_spec (cacheInv_run_of_acyclic ht ops _ (cacheInv_init base) hac) a b).1

def Safe (t : InvalTable) : Graph N G → List (Op N G) → Prop
  | _, [] => True
  | s, op :: ops => OpOK s op ∧ Safe t (step t s op).2 ops

theorem cacheInv_run_of_safe {t : InvalTable} (ht : t.ok = true) (ops : List (Op N G)) (s : Graph N G)
    (hinv : CacheInv s) (hs : Safe t s ops) : CacheInv (run t s ops) := by
  induction ops generalizing s with
  | nil => exact hinv
  | cons op ops ih => exact ih _ (step_inv ht hinv op (.inl hs.1)) hs.2

end final

end TV.Forest
