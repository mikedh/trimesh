/-
Exact moments of a signed tetrahedron (0, a, b, c), the edge terms that separate them from the
surface-integral polynomials used by `triangles.mass_properties`, and the closed-surface sum theorem.
-/
import Mathlib.Algebra.BigOperators.Group.List.Basic
import Mathlib.Algebra.Field.Basic
import Mathlib.Algebra.CharZero.Defs
import Mathlib.Tactic.Ring
import Mathlib.Tactic.LinearCombination

namespace TV.Moments

variable {K : Type} [Field K]

def det3 (a1 a2 a3 b1 b2 b3 c1 c2 c3 : K) : K :=
  a1 * (b2 * c3 - b3 * c2) - a2 * (b1 * c3 - b3 * c1) + a3 * (b1 * c2 - b2 * c1)

/-! ### exact integrals of the monomials 1, x, y, z, x², y², z², xy, yz, zx over the signed
tetrahedron with apex at the origin (`∫ xⁱyʲzᵏ` over the standard simplex is `i!j!k!/(i+j+k+3)!`,
expanded multilinearly in the three edge vectors) -/

def T0 (a1 a2 a3 b1 b2 b3 c1 c2 c3 : K) : K := det3 a1 a2 a3 b1 b2 b3 c1 c2 c3 / 6
def T1 (a1 a2 a3 b1 b2 b3 c1 c2 c3 : K) : K := det3 a1 a2 a3 b1 b2 b3 c1 c2 c3 * (a1 + b1 + c1) / 24
def T2 (a1 a2 a3 b1 b2 b3 c1 c2 c3 : K) : K := det3 a1 a2 a3 b1 b2 b3 c1 c2 c3 * (a2 + b2 + c2) / 24
def T3 (a1 a2 a3 b1 b2 b3 c1 c2 c3 : K) : K := det3 a1 a2 a3 b1 b2 b3 c1 c2 c3 * (a3 + b3 + c3) / 24
/-- symmetric second-order form `2(a_i a_j + b_i b_j + c_i c_j) + Σ mixed` -/
def q2 (ai aj bi bj ci cj : K) : K :=
  2 * ai * aj + 2 * bi * bj + 2 * ci * cj + ai * bj + aj * bi + ai * cj + aj * ci + bi * cj + bj * ci
def T4 (a1 a2 a3 b1 b2 b3 c1 c2 c3 : K) : K := det3 a1 a2 a3 b1 b2 b3 c1 c2 c3 * q2 a1 a1 b1 b1 c1 c1 / 120
def T5 (a1 a2 a3 b1 b2 b3 c1 c2 c3 : K) : K := det3 a1 a2 a3 b1 b2 b3 c1 c2 c3 * q2 a2 a2 b2 b2 c2 c2 / 120
def T6 (a1 a2 a3 b1 b2 b3 c1 c2 c3 : K) : K := det3 a1 a2 a3 b1 b2 b3 c1 c2 c3 * q2 a3 a3 b3 b3 c3 c3 / 120
def T7 (a1 a2 a3 b1 b2 b3 c1 c2 c3 : K) : K := det3 a1 a2 a3 b1 b2 b3 c1 c2 c3 * q2 a1 a2 b1 b2 c1 c2 / 120
def T8 (a1 a2 a3 b1 b2 b3 c1 c2 c3 : K) : K := det3 a1 a2 a3 b1 b2 b3 c1 c2 c3 * q2 a2 a3 b2 b3 c2 c3 / 120
def T9 (a1 a2 a3 b1 b2 b3 c1 c2 c3 : K) : K := det3 a1 a2 a3 b1 b2 b3 c1 c2 c3 * q2 a3 a1 b3 b1 c3 c1 / 120

/-! ### edge terms

How they are found.  For the monomial `m` of degree `d` the code sums over the faces the flux of a field `G` with
`div G = m` and one non-zero component: `(x, 0, 0)` for 1; `(x²/2, 0, 0)`, `(0, y²/2, 0)`, `(0, 0, z²/2)` for x, y, z;
`(x³/3, 0, 0)`, `(0, y³/3, 0)`, `(0, 0, z³/3)` for the squares; `(x²y/2, 0, 0)`, `(0, y²z/2, 0)`, `(0, 0, z²x/2)` for xy,
yz, zx.  The cone moment `T_i` is the flux of the radial field `C = m · r / (d + 3)`, `r = (x, y, z)`, which has the same
divergence.  `G − C` is divergence free and homogeneous of degree `d + 1`, so the Poincaré lemma gives the vector
potential `A = (G − C) × r / (d + 3) = G × r / (d + 3)` (`C` is parallel to `r`), and by Stokes the flux of `G − C`
through a face is the line integral of `A` round its boundary.  `g_i u v` is that integral along the segment from `u`
to `v`, `∫₀¹ A(u + s (v − u)) · (v − u) ds`, written out; reversing the segment negates it.  No proof uses any of this:
`C03_face_decomp_i` and `C03_edge_antisymm_i` check the ten polynomials by `ring`. -/

def g0 (u1 u2 u3 v1 v2 v3 : K) : K :=
  ((1 : K) / 6) * u1 * u2 * v3 + ((-1 : K) / 6) * u1 * u3 * v2 + ((1 : K) / 6) * u2 * v1 * v3 + ((-1 : K) / 6) * u3 * v1 * v2
def g1 (u1 u2 u3 v1 v2 v3 : K) : K :=
  ((1 : K) / 24) * u1 ^ 2 * u2 * v3 + ((-1 : K) / 24) * u1 ^ 2 * u3 * v2 + ((1 : K) / 24) * u1 * u2 * v1 * v3 + ((-1 : K) / 24) * u1 * u3 * v1 * v2 + ((1 : K) / 24) * u2 * v1 ^ 2 * v3 + ((-1 : K) / 24) * u3 * v1 ^ 2 * v2
def g2 (u1 u2 u3 v1 v2 v3 : K) : K :=
  ((-1 : K) / 24) * u1 * u2 ^ 2 * v3 + ((-1 : K) / 24) * u1 * u2 * v2 * v3 + ((-1 : K) / 24) * u1 * v2 ^ 2 * v3 + ((1 : K) / 24) * u2 ^ 2 * u3 * v1 + ((1 : K) / 24) * u2 * u3 * v1 * v2 + ((1 : K) / 24) * u3 * v1 * v2 ^ 2
def g3 (u1 u2 u3 v1 v2 v3 : K) : K :=
  ((1 : K) / 24) * u1 * u3 ^ 2 * v2 + ((1 : K) / 24) * u1 * u3 * v2 * v3 + ((1 : K) / 24) * u1 * v2 * v3 ^ 2 + ((-1 : K) / 24) * u2 * u3 ^ 2 * v1 + ((-1 : K) / 24) * u2 * u3 * v1 * v3 + ((-1 : K) / 24) * u2 * v1 * v3 ^ 2
def g4 (u1 u2 u3 v1 v2 v3 : K) : K :=
  ((1 : K) / 60) * u1 ^ 3 * u2 * v3 + ((-1 : K) / 60) * u1 ^ 3 * u3 * v2 + ((1 : K) / 60) * u1 ^ 2 * u2 * v1 * v3 + ((-1 : K) / 60) * u1 ^ 2 * u3 * v1 * v2 + ((1 : K) / 60) * u1 * u2 * v1 ^ 2 * v3 + ((-1 : K) / 60) * u1 * u3 * v1 ^ 2 * v2 + ((1 : K) / 60) * u2 * v1 ^ 3 * v3 + ((-1 : K) / 60) * u3 * v1 ^ 3 * v2
def g5 (u1 u2 u3 v1 v2 v3 : K) : K :=
  ((-1 : K) / 60) * u1 * u2 ^ 3 * v3 + ((-1 : K) / 60) * u1 * u2 ^ 2 * v2 * v3 + ((-1 : K) / 60) * u1 * u2 * v2 ^ 2 * v3 + ((-1 : K) / 60) * u1 * v2 ^ 3 * v3 + ((1 : K) / 60) * u2 ^ 3 * u3 * v1 + ((1 : K) / 60) * u2 ^ 2 * u3 * v1 * v2 + ((1 : K) / 60) * u2 * u3 * v1 * v2 ^ 2 + ((1 : K) / 60) * u3 * v1 * v2 ^ 3
def g6 (u1 u2 u3 v1 v2 v3 : K) : K :=
  ((1 : K) / 60) * u1 * u3 ^ 3 * v2 + ((1 : K) / 60) * u1 * u3 ^ 2 * v2 * v3 + ((1 : K) / 60) * u1 * u3 * v2 * v3 ^ 2 + ((1 : K) / 60) * u1 * v2 * v3 ^ 3 + ((-1 : K) / 60) * u2 * u3 ^ 3 * v1 + ((-1 : K) / 60) * u2 * u3 ^ 2 * v1 * v3 + ((-1 : K) / 60) * u2 * u3 * v1 * v3 ^ 2 + ((-1 : K) / 60) * u2 * v1 * v3 ^ 3
def g7 (u1 u2 u3 v1 v2 v3 : K) : K :=
  ((1 : K) / 40) * u1 ^ 2 * u2 ^ 2 * v3 + ((-1 : K) / 40) * u1 ^ 2 * u2 * u3 * v2 + ((1 : K) / 120) * u1 ^ 2 * u2 * v2 * v3 + ((-1 : K) / 120) * u1 ^ 2 * u3 * v2 ^ 2 + ((1 : K) / 60) * u1 * u2 ^ 2 * v1 * v3 + ((-1 : K) / 60) * u1 * u2 * u3 * v1 * v2 + ((1 : K) / 60) * u1 * u2 * v1 * v2 * v3 + ((-1 : K) / 60) * u1 * u3 * v1 * v2 ^ 2 + ((1 : K) / 120) * u2 ^ 2 * v1 ^ 2 * v3 + ((-1 : K) / 120) * u2 * u3 * v1 ^ 2 * v2 + ((1 : K) / 40) * u2 * v1 ^ 2 * v2 * v3 + ((-1 : K) / 40) * u3 * v1 ^ 2 * v2 ^ 2
def g8 (u1 u2 u3 v1 v2 v3 : K) : K :=
  ((-1 : K) / 40) * u1 * u2 ^ 2 * u3 * v3 + ((-1 : K) / 120) * u1 * u2 ^ 2 * v3 ^ 2 + ((-1 : K) / 60) * u1 * u2 * u3 * v2 * v3 + ((-1 : K) / 60) * u1 * u2 * v2 * v3 ^ 2 + ((-1 : K) / 120) * u1 * u3 * v2 ^ 2 * v3 + ((-1 : K) / 40) * u1 * v2 ^ 2 * v3 ^ 2 + ((1 : K) / 40) * u2 ^ 2 * u3 ^ 2 * v1 + ((1 : K) / 120) * u2 ^ 2 * u3 * v1 * v3 + ((1 : K) / 60) * u2 * u3 ^ 2 * v1 * v2 + ((1 : K) / 60) * u2 * u3 * v1 * v2 * v3 + ((1 : K) / 120) * u3 ^ 2 * v1 * v2 ^ 2 + ((1 : K) / 40) * u3 * v1 * v2 ^ 2 * v3
def g9 (u1 u2 u3 v1 v2 v3 : K) : K :=
  ((1 : K) / 40) * u1 ^ 2 * u3 ^ 2 * v2 + ((1 : K) / 60) * u1 ^ 2 * u3 * v2 * v3 + ((1 : K) / 120) * u1 ^ 2 * v2 * v3 ^ 2 + ((-1 : K) / 40) * u1 * u2 * u3 ^ 2 * v1 + ((-1 : K) / 60) * u1 * u2 * u3 * v1 * v3 + ((-1 : K) / 120) * u1 * u2 * v1 * v3 ^ 2 + ((1 : K) / 120) * u1 * u3 ^ 2 * v1 * v2 + ((1 : K) / 60) * u1 * u3 * v1 * v2 * v3 + ((1 : K) / 40) * u1 * v1 * v2 * v3 ^ 2 + ((-1 : K) / 120) * u2 * u3 ^ 2 * v1 ^ 2 + ((-1 : K) / 60) * u2 * u3 * v1 ^ 2 * v3 + ((-1 : K) / 40) * u2 * v1 ^ 2 * v3 ^ 2

abbrev Pt (K : Type) := K × K × K
abbrev Tri (K : Type) := Pt K × Pt K × Pt K

def dirEdges (fs : List (Tri K)) : List (Pt K × Pt K) :=
  fs.flatMap (fun f => [(f.1, f.2.1), (f.2.1, f.2.2), (f.2.2, f.1)])

/-- closed and consistently wound: the multiset of directed edges is invariant under reversal
    (any genus, several bodies, overlapping or nested shells) -/
def Closed (fs : List (Tri K)) : Prop := (dirEdges fs).Perm ((dirEdges fs).map Prod.swap)

-- used once, for the `/ 2` in `edge_sum_zero`; the two theorems after it inherit it
variable [CharZero K]

theorem edge_sum_zero (g : Pt K → Pt K → K) (hg : ∀ u v, g u v + g v u = 0)
    (fs : List (Tri K)) (h : Closed fs) :
    ((dirEdges fs).map (fun e => g e.1 e.2)).sum = 0 := by
  -- the sum over the reversed edges is the same sum (`Closed`), and term by term the two add up to zero
  have h1 := (h.map (fun e => g e.1 e.2)).sum_eq
  have h2 : ((dirEdges fs).map (fun e => g e.1 e.2)).sum
      + (((dirEdges fs).map Prod.swap).map (fun e => g e.1 e.2)).sum = 0 := by
    rw [List.map_map, ← List.sum_map_add]
    simp [hg]
  rw [← h1] at h2
  linear_combination h2 / 2

/-- if a per-face quantity `F` equals `T` plus antisymmetric edge terms, the sums of `F` and `T` over a
    closed consistently wound surface agree -/
theorem face_sum_eq (F T : Pt K → Pt K → Pt K → K) (g : Pt K → Pt K → K)
    (hg : ∀ u v, g u v + g v u = 0)
    (hF : ∀ a b c, F a b c = T a b c + (g a b + g b c + g c a))
    (fs : List (Tri K)) (h : Closed fs) :
    (fs.map (fun f => F f.1 f.2.1 f.2.2)).sum = (fs.map (fun f => T f.1 f.2.1 f.2.2)).sum := by
  have key : (fs.map (fun f => F f.1 f.2.1 f.2.2)).sum
      = (fs.map (fun f => T f.1 f.2.1 f.2.2)).sum + ((dirEdges fs).map (fun e => g e.1 e.2)).sum := by
    clear h
    unfold dirEdges
    induction fs with
    | nil => simp
    | cons f t ih =>
      simp only [List.map_cons, List.sum_cons, List.flatMap_cons, List.map_append, List.sum_append,
        List.map_nil, List.sum_nil] at ih ⊢
      rw [ih, hF]; ring
  rw [key, edge_sum_zero g hg fs h, add_zero]

/-- `face_sum_eq` for quantities given as functions of the nine (six) coordinates, the form of the traced integrands -/
theorem face_sum_eq_coords (F T : K → K → K → K → K → K → K → K → K → K) (g : K → K → K → K → K → K → K)
    (hg : ∀ u1 u2 u3 v1 v2 v3, g u1 u2 u3 v1 v2 v3 + g v1 v2 v3 u1 u2 u3 = 0)
    (hF : ∀ a1 a2 a3 b1 b2 b3 c1 c2 c3, F a1 a2 a3 b1 b2 b3 c1 c2 c3 = T a1 a2 a3 b1 b2 b3 c1 c2 c3
      + (g a1 a2 a3 b1 b2 b3 + g b1 b2 b3 c1 c2 c3 + g c1 c2 c3 a1 a2 a3))
    (fs : List (Tri K)) (h : Closed fs) :
    (fs.map (fun f => F f.1.1 f.1.2.1 f.1.2.2 f.2.1.1 f.2.1.2.1 f.2.1.2.2 f.2.2.1 f.2.2.2.1 f.2.2.2.2)).sum
      = (fs.map (fun f => T f.1.1 f.1.2.1 f.1.2.2 f.2.1.1 f.2.1.2.1 f.2.1.2.2 f.2.2.1 f.2.2.2.1 f.2.2.2.2)).sum :=
  face_sum_eq (fun a b c => F a.1 a.2.1 a.2.2 b.1 b.2.1 b.2.2 c.1 c.2.1 c.2.2)
    (fun a b c => T a.1 a.2.1 a.2.2 b.1 b.2.1 b.2.2 c.1 c.2.1 c.2.2) (fun u v => g u.1 u.2.1 u.2.2 v.1 v.2.1 v.2.2)
    (fun _ _ => hg ..) (fun _ _ _ => hF ..) fs h

end TV.Moments
