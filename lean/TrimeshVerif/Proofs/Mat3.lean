/- 3x3 matrices over a field as plain structures (friendly to `ring`): product, transpose, determinant, proper
   rotations, the elementary rotations about the coordinate axes; the algebra shared by C03, C04, C10 and C19
   (associativity, symmetric matrices decided by six entries, scalar multiples, cyclic relabelling of the axes) -/
import Mathlib.Algebra.Field.Basic
import Mathlib.Tactic.Ring
import Mathlib.Tactic.LinearCombination
import Mathlib.Tactic.FieldSimp
namespace TV.Mat3

structure M3 (K : Type) where
  m00 : K
  m01 : K
  m02 : K
  m10 : K
  m11 : K
  m12 : K
  m20 : K
  m21 : K
  m22 : K
  deriving DecidableEq

variable {K : Type} [Field K]

@[ext] theorem M3.ext' {a b : M3 K} (h00 : a.m00 = b.m00) (h01 : a.m01 = b.m01) (h02 : a.m02 = b.m02)
    (h10 : a.m10 = b.m10) (h11 : a.m11 = b.m11) (h12 : a.m12 = b.m12)
    (h20 : a.m20 = b.m20) (h21 : a.m21 = b.m21) (h22 : a.m22 = b.m22) : a = b := by
  cases a; cases b; simp_all

def M3.one : M3 K := ⟨1, 0, 0, 0, 1, 0, 0, 0, 1⟩
def M3.mul (a b : M3 K) : M3 K :=
  ⟨a.m00 * b.m00 + a.m01 * b.m10 + a.m02 * b.m20, a.m00 * b.m01 + a.m01 * b.m11 + a.m02 * b.m21,
   a.m00 * b.m02 + a.m01 * b.m12 + a.m02 * b.m22,
   a.m10 * b.m00 + a.m11 * b.m10 + a.m12 * b.m20, a.m10 * b.m01 + a.m11 * b.m11 + a.m12 * b.m21,
   a.m10 * b.m02 + a.m11 * b.m12 + a.m12 * b.m22,
   a.m20 * b.m00 + a.m21 * b.m10 + a.m22 * b.m20, a.m20 * b.m01 + a.m21 * b.m11 + a.m22 * b.m21,
   a.m20 * b.m02 + a.m21 * b.m12 + a.m22 * b.m22⟩
instance : Mul (M3 K) := ⟨M3.mul⟩
instance : One (M3 K) := ⟨M3.one⟩
def M3.transpose (a : M3 K) : M3 K := ⟨a.m00, a.m10, a.m20, a.m01, a.m11, a.m21, a.m02, a.m12, a.m22⟩
def M3.det (a : M3 K) : K :=
  a.m00 * (a.m11 * a.m22 - a.m12 * a.m21) - a.m01 * (a.m10 * a.m22 - a.m12 * a.m20)
    + a.m02 * (a.m10 * a.m21 - a.m11 * a.m20)
def M3.apply (a : M3 K) (v : K × K × K) : K × K × K :=
  (a.m00 * v.1 + a.m01 * v.2.1 + a.m02 * v.2.2, a.m10 * v.1 + a.m11 * v.2.1 + a.m12 * v.2.2,
   a.m20 * v.1 + a.m21 * v.2.1 + a.m22 * v.2.2)

/-- proper rotation: orthonormal with determinant one -/
def M3.IsRotation (a : M3 K) : Prop := a * a.transpose = 1 ∧ a.det = 1

/-- elementary rotations about the coordinate axes by an angle given as (cos, sin) -/
def Rx (c s : K) : M3 K := ⟨1, 0, 0, 0, c, -s, 0, s, c⟩
def Ry (c s : K) : M3 K := ⟨c, 0, s, 0, 1, 0, -s, 0, c⟩
def Rz (c s : K) : M3 K := ⟨c, -s, 0, s, c, 0, 0, 0, 1⟩

/-! ### `M3` algebra -/

theorem M3.mul_def (a b : M3 K) : a * b = M3.mul a b := rfl
theorem M3.one_def : (1 : M3 K) = M3.one := rfl

/-- `(x B) y = x (B y)` for a row `x`, a matrix `B` and a column `y` -/
theorem M3.row_mul_col {x1 x2 x3 b00 b01 b02 b10 b11 b12 b20 b21 b22 y1 y2 y3 : K} :
    (x1 * b00 + x2 * b10 + x3 * b20) * y1 + (x1 * b01 + x2 * b11 + x3 * b21) * y2
      + (x1 * b02 + x2 * b12 + x3 * b22) * y3
    = x1 * (b00 * y1 + b01 * y2 + b02 * y3) + x2 * (b10 * y1 + b11 * y2 + b12 * y3)
      + x3 * (b20 * y1 + b21 * y2 + b22 * y3) := by
  ring

theorem M3.mul_assoc' (a b c : M3 K) : a * b * c = a * (b * c) := by
  -- entry (i, j) is `M3.row_mul_col` at row i of `a` and column j of `c`, found by unification
  apply M3.ext' <;> exact M3.row_mul_col

theorem M3.mul_one' (a : M3 K) : a * 1 = a := by
  simp only [M3.mul_def, M3.mul, M3.one_def, M3.one, mul_one, mul_zero, add_zero, zero_add]

theorem M3.one_mul' (a : M3 K) : 1 * a = a := by
  simp only [M3.mul_def, M3.mul, M3.one_def, M3.one, one_mul, zero_mul, add_zero, zero_add]

theorem M3.transpose_one : (1 : M3 K).transpose = 1 := rfl

theorem M3.transpose_mul (a b : M3 K) : (a * b).transpose = b.transpose * a.transpose := by
  simp only [M3.mul_def, M3.mul, M3.transpose, mul_comm]

/-- symmetric matrices that agree on the upper triangle are equal -/
theorem M3.ext_of_symm {a b : M3 K} (ha : a.transpose = a) (hb : b.transpose = b)
    (h00 : a.m00 = b.m00) (h01 : a.m01 = b.m01) (h02 : a.m02 = b.m02) (h11 : a.m11 = b.m11)
    (h12 : a.m12 = b.m12) (h22 : a.m22 = b.m22) : a = b :=
  -- `congrArg M3.m10 ha : a.m01 = a.m10`, and so on
  M3.ext' h00 h01 h02 ((congrArg M3.m10 ha).symm.trans (h01.trans (congrArg M3.m10 hb))) h11 h12
    ((congrArg M3.m20 ha).symm.trans (h02.trans (congrArg M3.m20 hb)))
    ((congrArg M3.m21 ha).symm.trans (h12.trans (congrArg M3.m21 hb))) h22

theorem M3.conj_symm (R A : M3 K) (hA : A.transpose = A) :
    (R.transpose * A * R).transpose = R.transpose * A * R := by
  rw [M3.transpose_mul, M3.transpose_mul, hA, M3.mul_assoc']
  rfl

theorem M3.mul_transpose_self_symm (a : M3 K) : (a * a.transpose).transpose = a * a.transpose :=
  M3.transpose_mul a a.transpose

theorem M3.det_mul (a b : M3 K) : (a * b).det = a.det * b.det := by
  simp only [M3.mul_def, M3.mul, M3.det]; ring

theorem M3.isRotation_one : (1 : M3 K).IsRotation := by
  constructor
  · exact M3.mul_one' _
  · simp only [M3.one_def, M3.one, M3.det]; ring

theorem M3.IsRotation.mul {a b : M3 K} (ha : a.IsRotation) (hb : b.IsRotation) : (a * b).IsRotation := by
  obtain ⟨ha1, ha2⟩ := ha
  obtain ⟨hb1, hb2⟩ := hb
  constructor
  · rw [M3.transpose_mul, M3.mul_assoc', ← M3.mul_assoc' b, hb1, ← M3.mul_assoc', M3.mul_one', ha1]
  · rw [M3.det_mul, ha2, hb2, mul_one]

/-- relabelling the axes cyclically (y becomes x, z becomes y, x becomes z): entry `(i, j)` of the result is
    entry `(i+1, j+1)` -/
def M3.cyc (a : M3 K) : M3 K := ⟨a.m11, a.m12, a.m10, a.m21, a.m22, a.m20, a.m01, a.m02, a.m00⟩

theorem M3.cyc_mul (a b : M3 K) : (a * b).cyc = a.cyc * b.cyc := by
  apply M3.ext' <;> simp only [M3.cyc, M3.mul_def, M3.mul] <;> ring

theorem M3.cyc_injective {a b : M3 K} (h : a.cyc = b.cyc) : a = b :=
  -- `a.cyc.cyc.cyc` is `a` by unfolding
  congrArg (fun x => x.cyc.cyc) h

theorem cyc_Ry (c s : K) : (Ry c s).cyc = Rx c s := rfl
theorem cyc_Rz (c s : K) : (Rz c s).cyc = Ry c s := rfl
theorem cyc_Rx (c s : K) : (Rx c s).cyc = Rz c s := rfl

end TV.Mat3

namespace TV.Affine
open TV.Mat3

variable {K : Type} [Field K]

/-- scalar times matrix (its full name `TV.Affine.M3.smul` is used by statements about affine maps) -/
def M3.smul (s : K) (a : M3 K) : M3 K :=
  ⟨s * a.m00, s * a.m01, s * a.m02, s * a.m10, s * a.m11, s * a.m12, s * a.m20, s * a.m21, s * a.m22⟩

theorem M3.mul_smul (s : K) (A B : M3 K) : A * M3.smul s B = M3.smul s (A * B) := by
  simp only [M3.mul_def, M3.mul, M3.smul, mul_add, mul_left_comm _ s]

theorem M3.smul_mul (s : K) (A B : M3 K) : M3.smul s A * B = M3.smul s (A * B) := by
  simp only [M3.mul_def, M3.mul, M3.smul, mul_add, mul_assoc]

theorem M3.smul_smul (s r : K) (A : M3 K) : M3.smul s (M3.smul r A) = M3.smul (s * r) A := by
  simp only [M3.smul, mul_assoc]

theorem M3.one_smul (A : M3 K) : M3.smul 1 A = A := by
  simp only [M3.smul, one_mul]

theorem M3.smul_cancel {s : K} (hs : s ≠ 0) {A B : M3 K} (h : M3.smul s A = M3.smul s B) : A = B := by
  -- multiply both sides by `s⁻¹`
  rw [← M3.one_smul A, ← M3.one_smul B, ← inv_mul_cancel₀ hs, ← M3.smul_smul, ← M3.smul_smul, h]

end TV.Affine
