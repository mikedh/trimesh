/-
Algebra of `TV.Query.dot`, `add`, `sub`, `smul`, `cross` on rational triples, in coordinates once: `dot` is
symmetric, bilinear and positive; the Binet–Cauchy and Lagrange identities; the three cancellation laws of `add` and
`sub` the proofs need, under the names the same laws have in Mathlib.  Identities between dot products follow from
these by `simp only [...]; ring`.
-/
import TrimeshVerif.Model.Query
import Mathlib.Algebra.Order.Field.Rat
import Mathlib.Tactic.Ring
namespace TV.Query

theorem add_sub_cancel_left (a q : P) : sub (add a q) a = q := by
  simp only [sub, add, _root_.add_sub_cancel_left]

theorem sub_add_eq_sub_sub (p a q : P) : sub p (add a q) = sub (sub p a) q := by
  simp only [sub, add, _root_.sub_add_eq_sub_sub]

theorem eq_add_of_sub_eq' {p a q : P} (h : sub p a = q) : p = add a q := by
  rw [← h]
  simp only [sub, add, add_sub_cancel]

theorem dot_comm (x y : P) : dot x y = dot y x := by simp only [dot]; ring

theorem dot_add_left (a b x : P) : dot (add a b) x = dot a x + dot b x := by simp only [dot, add]; ring
theorem dot_sub_left (a b x : P) : dot (sub a b) x = dot a x - dot b x := by simp only [dot, sub]; ring
theorem dot_smul_left (s : Rat) (a x : P) : dot (smul s a) x = s * dot a x := by simp only [dot, smul]; ring
theorem dot_add_right (x a b : P) : dot x (add a b) = dot x a + dot x b := by simp only [dot, add]; ring
theorem dot_sub_right (x a b : P) : dot x (sub a b) = dot x a - dot x b := by simp only [dot, sub]; ring
theorem dot_smul_right (s : Rat) (x a : P) : dot x (smul s a) = s * dot x a := by simp only [dot, smul]; ring

theorem dot_self_nonneg (x : P) : 0 ≤ dot x x :=
  add_nonneg (add_nonneg (mul_self_nonneg _) (mul_self_nonneg _)) (mul_self_nonneg _)

/-- Binet–Cauchy: the inner product of two cross products -/
theorem dot_cross_cross (x y z w : P) :
    dot (cross x y) (cross z w) = dot x z * dot y w - dot x w * dot y z := by
  simp only [dot, cross]
  ring

/-- Lagrange's identity, Binet–Cauchy at `z = x`, `w = y`: the Gram determinant is the squared norm of the cross
    product -/
theorem lagrange (x y : P) : dot x x * dot y y - dot x y * dot x y = dot (cross x y) (cross x y) := by
  rw [dot_cross_cross, dot_comm y x]

end TV.Query
