/-
C18, `remesh.subdivide`, in two independent halves.  Geometry over a field: the ten cone moments of the four children of
a triangle add up to the parent's (each child has a quarter of the parent's `det3`, and the forms in the corners add up
to four times the parent's).  Index bookkeeping over `Nat`, for any symmetric numbering `mid` of the new vertices: the
directed edges of the subdivided faces are the two halves of every old directed edge and six inner edges per face, both
families closed under reversal when the old edges are (`subdivide_closed`).
-/
import TrimeshVerif.Proofs.Affine
namespace TV.Remesh
open TV.Mat3 TV.Moments TV.Affine

variable {K : Type} [Field K]

def midpoint (a b : V3 K) : V3 K := ((a.1 + b.1) / 2, (a.2.1 + b.2.1) / 2, (a.2.2 + b.2.2) / 2)

/-- the four children of triangle (a, b, c) in the code's column order:
    [a, m_ab, m_ca], [m_ab, b, m_bc], [m_ca, m_bc, c], [m_ab, m_bc, m_ca] -/
def children (a b c : V3 K) : List (V3 K × V3 K × V3 K) :=
  let m0 := midpoint a b; let m1 := midpoint b c; let m2 := midpoint c a
  [(a, m0, m2), (m0, b, m1), (m2, m1, c), (m0, m1, m2)]

/-- area vector (twice the area times the unit normal) -/
def areaVec (t : V3 K × V3 K × V3 K) : V3 K := cross (sub t.2.1 t.1) (sub t.2.2 t.1)

/-- all ten exact moments of the signed tetrahedron (origin, triangle) -/
def moments (t : V3 K × V3 K × V3 K) : List K :=
  let a := t.1; let b := t.2.1; let c := t.2.2
  [T0 a.1 a.2.1 a.2.2 b.1 b.2.1 b.2.2 c.1 c.2.1 c.2.2, T1 a.1 a.2.1 a.2.2 b.1 b.2.1 b.2.2 c.1 c.2.1 c.2.2,
   T2 a.1 a.2.1 a.2.2 b.1 b.2.1 b.2.2 c.1 c.2.1 c.2.2, T3 a.1 a.2.1 a.2.2 b.1 b.2.1 b.2.2 c.1 c.2.1 c.2.2,
   T4 a.1 a.2.1 a.2.2 b.1 b.2.1 b.2.2 c.1 c.2.1 c.2.2, T5 a.1 a.2.1 a.2.2 b.1 b.2.1 b.2.2 c.1 c.2.1 c.2.2,
   T6 a.1 a.2.1 a.2.2 b.1 b.2.1 b.2.2 c.1 c.2.1 c.2.2, T7 a.1 a.2.1 a.2.2 b.1 b.2.1 b.2.2 c.1 c.2.1 c.2.2,
   T8 a.1 a.2.1 a.2.2 b.1 b.2.1 b.2.2 c.1 c.2.1 c.2.2, T9 a.1 a.2.1 a.2.2 b.1 b.2.1 b.2.2 c.1 c.2.1 c.2.2]

/-! ### the moments of the four children

Every moment of a cone is `det3` times a form in the corners.  Each child cone has a quarter of the parent's `det3`,
and the forms of the four children add up to four times the parent's: stated once for a generic coordinate (pair),
used for each of the ten moments. -/

section geom
variable [CharZero K]

theorem det3_children (a b c : V3 K) :
    det3v a (midpoint a b) (midpoint c a) = det3v a b c / 4 ∧ det3v (midpoint a b) b (midpoint b c) = det3v a b c / 4 ∧
    det3v (midpoint c a) (midpoint b c) c = det3v a b c / 4 ∧
    det3v (midpoint a b) (midpoint b c) (midpoint c a) = det3v a b c / 4 := by
  simp only [det3, midpoint]
  refine ⟨?_, ?_, ?_, ?_⟩ <;> ring

/-- The left sides here and in `q2_children` are right-nested and end in `+ 0`: the form to which
    `simp only [List.sum_cons, List.sum_nil]` brings the sum over the four children in `C18_children_moments`, so that
    `exact lin_children ..` applies there as it stands (the coordinates of `midpoint` match by unfolding) -/
theorem lin_children (D x y z : K) :
    D / 4 * (x + (x + y) / 2 + (z + x) / 2) / 24 + (D / 4 * ((x + y) / 2 + y + (y + z) / 2) / 24 +
      (D / 4 * ((z + x) / 2 + (y + z) / 2 + z) / 24 + (D / 4 * ((x + y) / 2 + (y + z) / 2 + (z + x) / 2) / 24 + 0)))
      = D * (x + y + z) / 24 := by
  ring

theorem q2_children (D x x' y y' z z' : K) :
    D / 4 * q2 x x' ((x + y) / 2) ((x' + y') / 2) ((z + x) / 2) ((z' + x') / 2) / 120 +
      (D / 4 * q2 ((x + y) / 2) ((x' + y') / 2) y y' ((y + z) / 2) ((y' + z') / 2) / 120 +
      (D / 4 * q2 ((z + x) / 2) ((z' + x') / 2) ((y + z) / 2) ((y' + z') / 2) z z' / 120 +
      (D / 4 * q2 ((x + y) / 2) ((x' + y') / 2) ((y + z) / 2) ((y' + z') / 2) ((z + x) / 2) ((z' + x') / 2) / 120
        + 0)))
      = D * q2 x x' y y' z z' / 120 := by
  unfold q2
  ring

end geom

/-! ### index bookkeeping: faces over Nat, one new vertex per undirected edge -/

abbrev Face := Nat × Nat × Nat

def childFaces (mid : Nat → Nat → Nat) (f : Face) : List Face :=
  let a := f.1; let b := f.2.1; let c := f.2.2
  let m0 := mid a b; let m1 := mid b c; let m2 := mid c a
  [(a, m0, m2), (m0, b, m1), (m2, m1, c), (m0, m1, m2)]

def subdivideFaces (mid : Nat → Nat → Nat) (fs : List Face) : List Face := fs.flatMap (childFaces mid)

def dirEdges (fs : List Face) : List (Nat × Nat) :=
  fs.flatMap (fun f => [(f.1, f.2.1), (f.2.1, f.2.2), (f.2.2, f.1)])

/-- watertight and consistently wound: the directed edges are closed under reversal as a multiset -/
def Closed (fs : List Face) : Prop := (dirEdges fs).Perm ((dirEdges fs).map Prod.swap)

def halfEdges (mid : Nat → Nat → Nat) (e : Nat × Nat) : List (Nat × Nat) :=
  [(e.1, mid e.1 e.2), (mid e.1 e.2, e.2)]

/-- the six interior directed edges created inside one face -/
def innerEdges (mid : Nat → Nat → Nat) (f : Face) : List (Nat × Nat) :=
  let m0 := mid f.1 f.2.1; let m1 := mid f.2.1 f.2.2; let m2 := mid f.2.2 f.1
  [(m0, m2), (m1, m0), (m2, m1), (m0, m1), (m1, m2), (m2, m0)]

theorem dirEdges_cons (f : Face) (fs : List Face) :
    dirEdges (f :: fs) = [(f.1, f.2.1), (f.2.1, f.2.2), (f.2.2, f.1)] ++ dirEdges fs := by
  simp [dirEdges]

theorem dirEdges_append (xs ys : List Face) : dirEdges (xs ++ ys) = dirEdges xs ++ dirEdges ys := by
  simp [dirEdges]

theorem dirEdges_childFaces_perm (mid : Nat → Nat → Nat) (f : Face) :
    (dirEdges (childFaces mid f)).Perm
      (([(f.1, f.2.1), (f.2.1, f.2.2), (f.2.2, f.1)] : List (Nat × Nat)).flatMap (halfEdges mid)
        ++ innerEdges mid f) := by
  obtain ⟨a, b, c⟩ := f
  simp only [dirEdges, childFaces, halfEdges, innerEdges, List.flatMap_cons, List.flatMap_nil,
    List.cons_append, List.nil_append, List.append_nil]
  -- unfolded, both sides are explicit lists of the same twelve directed edges in another order: every pair occurs as often
  -- in one as in the other (the counts are sums of twelve 0/1 terms, compared by `omega`)
  rw [List.perm_iff_count]
  intro x
  simp only [List.count_cons, List.count_nil]
  omega

theorem dirEdges_subdivide_perm (mid : Nat → Nat → Nat) (fs : List Face) :
    (dirEdges (subdivideFaces mid fs)).Perm
      ((dirEdges fs).flatMap (halfEdges mid) ++ fs.flatMap (innerEdges mid)) := by
  unfold subdivideFaces dirEdges
  rw [List.flatMap_assoc, List.flatMap_assoc]
  exact (List.Perm.flatMap_left _ fun f _ => dirEdges_childFaces_perm mid f).trans
    (List.flatMap_append_perm _ _ _).symm

theorem halfEdges_swap_perm (mid : Nat → Nat → Nat) (hsym : ∀ a b, mid a b = mid b a) (e : Nat × Nat) :
    ((halfEdges mid e).map Prod.swap).Perm (halfEdges mid e.swap) := by
  obtain ⟨a, b⟩ := e
  simp only [halfEdges, List.map_cons, List.map_nil, Prod.swap_prod_mk]
  rw [hsym b a]
  exact List.Perm.swap _ _ _

theorem innerEdges_swap_perm (mid : Nat → Nat → Nat) (f : Face) :
    ((innerEdges mid f).map Prod.swap).Perm (innerEdges mid f) := by
  simp only [innerEdges, List.map_cons, List.map_nil, Prod.swap_prod_mk]
  -- the six inner edges are three edges with their reverses, so swapping lists the same six pairs; counted as above
  rw [List.perm_iff_count]
  intro x
  simp only [List.count_cons, List.count_nil]
  omega

theorem subdivide_closed (mid : Nat → Nat → Nat) (hsym : ∀ a b, mid a b = mid b a)
    (fs : List Face) (h : Closed fs) : Closed (subdivideFaces mid fs) := by
  unfold Closed at h ⊢
  have hp := dirEdges_subdivide_perm mid fs
  refine hp.trans (List.Perm.trans ?_ (hp.map Prod.swap).symm)
  -- reversal maps the half edges of `e` to those of the reversed `e`, and the inner edges of a face to themselves
  rw [List.map_append, List.map_flatMap, List.map_flatMap]
  refine List.Perm.append ?_ (List.Perm.flatMap_left _ fun f _ => innerEdges_swap_perm mid f).symm
  refine (h.flatMap_right _).trans ?_
  rw [List.flatMap_map]
  exact (List.Perm.flatMap_left _ fun e _ => halfEdges_swap_perm mid hsym e).symm

end TV.Remesh
