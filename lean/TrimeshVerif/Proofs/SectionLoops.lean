/- For `C11_section_closed_loops`: the crossed edges of a face counted edge by edge, and the segment ends of the
   whole section as the crossed ones among all face edges.  Core Lean only. -/
import TrimeshVerif.Model.SectionLoops
import TrimeshVerif.Proofs.Topology
namespace TV.SectionLoops
open TV.Topology

theorem crossing_sortEdge (sgn : Nat → Int) (a b : Nat) :
    crossing sgn (sortEdge (a, b)) = decide (sgn a * sgn b < 0) := by
  rcases Nat.le_total a b with h | h
  · rw [sortEdge_of_le h, crossing]
  · rw [sortEdge_comm, sortEdge_of_le h, crossing, Int.mul_comm]

theorem segEdges_length_eq (sgn : Nat → Int) (f : Face) :
    (segEdges sgn f).length = (if sgn f.1 * sgn f.2.1 < 0 then 1 else 0) +
      ((if sgn f.2.1 * sgn f.2.2 < 0 then 1 else 0) + (if sgn f.2.2 * sgn f.1 < 0 then 1 else 0)) := by
  unfold segEdges faceEdgesSorted
  rw [← List.countP_eq_length_filter]
  simp only [List.countP_cons, List.countP_nil, crossing_sortEdge, decide_eq_true_eq]
  omega

theorem allSegEnds_eq (sgn : Nat → Int) (fs : List Face) :
    allSegEnds sgn fs = (edgesSorted fs).filter (crossing sgn) := by
  simp only [allSegEnds, edgesSorted, edges, List.map_flatMap, List.filter_flatMap]
  rfl

end TV.SectionLoops
