/-
Facts about core `List` functions that core does not state, shared by the proofs about grouping, topology,
re-indexing, views, the codecs, the cache and scene appending.  Core Lean only.
-/
namespace TV
variable {α β : Type}

theorem getD_of_getElem? {l : List α} {i : Nat} {x d : α} (h : l[i]? = some x) : l.getD i d = x := by
  rw [List.getD_eq_getElem?_getD, h]; rfl

theorem getElem?_eq_some_getD {l : List α} {i : Nat} (h : i < l.length) (d : α) : l[i]? = some (l.getD i d) := by
  rw [List.getD_eq_getElem?_getD, List.getElem?_eq_getElem h]; rfl

theorem getElem?_map_range (f : Nat → β) {n i : Nat} (h : i < n) : ((List.range n).map f)[i]? = some (f i) := by
  rw [List.getElem?_map, List.getElem?_range h]; rfl

theorem getD_map_range (g : Nat → β) {m v : Nat} (d : β) (h : v < m) : ((List.range m).map g).getD v d = g v :=
  getD_of_getElem? (getElem?_map_range g h)

theorem mem_of_lookup_eq_some [BEq α] [LawfulBEq α] {l : List (α × β)} {k : α} {v : β}
    (h : l.lookup k = some v) : (k, v) ∈ l := by
  obtain ⟨l₁, l₂, rfl, _⟩ := List.lookup_eq_some_iff.mp h
  simp

theorem headD_mem {l : List α} {d : α} (h : l ≠ []) : l.headD d ∈ l := by
  cases l with
  | nil => exact absurd rfl h
  | cons a t => simp

theorem headD_le_of_mem_ascending {g : List Nat} {d : Nat} (hasc : g.Pairwise (· ≤ ·)) {i : Nat} (hi : i ∈ g) :
    g.headD d ≤ i := by
  cases g with
  | nil => simp at hi
  | cons a t =>
    simp only [List.headD_cons]
    rcases List.mem_cons.mp hi with e | e
    · omega
    · exact (List.pairwise_cons.mp hasc).1 i e

theorem lt_length_of_getD_true {mask : List Bool} {i : Nat} (h : mask.getD i false = true) :
    i < mask.length := by
  apply Decidable.byContradiction
  intro hc
  simp [List.getD, List.getElem?_eq_none (Nat.le_of_not_lt hc)] at h

theorem map_inj_of_mem {f : α → β} : ∀ {a b : List α}, (∀ x ∈ a, ∀ y ∈ b, f x = f y → x = y) →
    a.map f = b.map f → a = b
  | [], [], _, _ => rfl
  | [], _ :: _, _, e => by simp at e
  | _ :: _, [], _, e => by simp at e
  | x :: xs, y :: ys, h, e => by
    simp only [List.map_cons, List.cons.injEq] at e
    rw [h x (by simp) y (by simp) e.1,
      map_inj_of_mem (fun x hx y hy => h x (List.mem_cons_of_mem _ hx) y (List.mem_cons_of_mem _ hy)) e.2]

theorem eraseDups_sublist [BEq α] : ∀ l : List α, l.eraseDups.Sublist l
  | [] => by simp
  | a :: as => by
    rw [List.eraseDups_cons]
    exact ((eraseDups_sublist _).trans List.filter_sublist).cons_cons a
termination_by l => l.length
decreasing_by exact Nat.lt_succ_of_le (List.length_filter_le _ _)

theorem eraseDups_nodup [BEq α] [LawfulBEq α] : ∀ l : List α, l.eraseDups.Nodup
  | [] => by simp
  | a :: as => by
    rw [List.eraseDups_cons, List.nodup_cons]
    exact ⟨by simp, eraseDups_nodup _⟩
termination_by l => l.length
decreasing_by exact Nat.lt_succ_of_le (List.length_filter_le _ _)

theorem eraseDups_length_of_twice [BEq α] [LawfulBEq α] (l : List α) (h : ∀ a ∈ l, l.count a = 2) :
    2 * l.eraseDups.length = l.length := by
  -- a member occurs twice in `l` and once in `l.eraseDups`
  have : l.Perm (l.eraseDups ++ l.eraseDups) := List.perm_iff_count.mpr fun a => by
    rw [List.count_append, (eraseDups_nodup l).count]
    by_cases ha : a ∈ l
    · rw [if_pos (List.mem_eraseDups.mpr ha), h a ha]
    · rw [if_neg (mt List.mem_eraseDups.mp ha), List.count_eq_zero.mpr ha]
  rw [this.length_eq, List.length_append, Nat.two_mul]

/-! ### `foldl min a` / `foldl max a` is the least / greatest of `a` and the members (`Int`; the last lemma on `Nat`) -/

theorem foldl_min_mem (a : Int) (xs : List Int) : xs.foldl min a ∈ a :: xs :=
  List.min?_mem (List.min?_cons' ..)

theorem foldl_min_le (a : Int) (xs : List Int) : ∀ x ∈ a :: xs, xs.foldl min a ≤ x :=
  ((List.min?_eq_some_iff (xs := a :: xs)).mp (List.min?_cons' ..)).2

theorem foldl_max_mem (a : Int) (xs : List Int) : xs.foldl max a ∈ a :: xs :=
  List.max?_mem (List.max?_cons' ..)

theorem le_foldl_max (a : Nat) (xs : List Nat) : ∀ x ∈ a :: xs, x ≤ xs.foldl max a :=
  ((List.max?_eq_some_iff (xs := a :: xs)).mp (List.max?_cons' ..)).2

/-! ### blocks of one length `k`: element `k * i + j` of a `flatMap` is element `j` of block `i` -/

theorem length_flatMap_const {k : Nat} (g : α → List β) (l : List α) (h : ∀ x ∈ l, (g x).length = k) :
    (l.flatMap g).length = k * l.length := by
  rw [List.length_flatMap, List.map_congr_left h, List.map_const', List.sum_replicate_nat, Nat.mul_comm]

theorem getElem?_flatMap_const {k : Nat} (g : α → List β) : ∀ (l : List α), (∀ x ∈ l, (g x).length = k) →
    ∀ (i : Nat) (hi : i < l.length) (j : Nat), j < k → (l.flatMap g)[k * i + j]? = (g l[i])[j]?
  | x :: l, h, 0, _, j, hj => by
    rw [List.flatMap_cons, Nat.mul_zero, Nat.zero_add, List.getElem?_append_left (by rw [h x (by simp)]; exact hj)]
    rfl
  | x :: l, h, i + 1, hi, j, hj => by
    rw [List.flatMap_cons, List.getElem?_append_right (by rw [h x (by simp), Nat.mul_succ]; omega), h x (by simp),
      show k * (i + 1) + j - k = k * i + j by rw [Nat.mul_succ]; omega]
    exact getElem?_flatMap_const g l (fun y hy => h y (List.mem_cons_of_mem _ hy)) i (by simpa using hi) j hj

/-- the window of `k` elements that starts at `k * f` holds the positions `i` with `i / k = f` -/
theorem mem_drop_take_block {k : Nat} (hk : 0 < k) (l : List β) (f : Nat) (e : β) :
    e ∈ (l.drop (k * f)).take k ↔ ∃ i, i / k = f ∧ l[i]? = some e := by
  rw [List.mem_iff_getElem?]
  constructor
  · rintro ⟨r, hr⟩
    rw [List.getElem?_take] at hr
    split at hr
    · rename_i hrk
      rw [List.getElem?_drop] at hr
      exact ⟨k * f + r, by rw [Nat.mul_add_div hk, Nat.div_eq_of_lt hrk, Nat.add_zero], hr⟩
    · simp at hr
  · rintro ⟨i, rfl, he⟩
    have h1 : k * (i / k) ≤ i := Nat.mul_div_le i k
    have h2 : i < k * (i / k) + k := Nat.mul_succ k (i / k) ▸ Nat.lt_mul_div_succ i hk
    refine ⟨i - k * (i / k), ?_⟩
    rw [List.getElem?_take, if_pos (by omega), List.getElem?_drop, Nat.add_sub_cancel' h1]
    exact he

/-! ### `filterMap f` where `f` is defined on every member drops nothing; selection `idx.filterMap (l[·]?)` -/

theorem map_some_filterMap (f : α → Option β) (l : List α) (h : ∀ x ∈ l, (f x).isSome) :
    (l.filterMap f).map some = l.map f := by
  rw [List.map_filterMap_some_eq_filter_map_isSome, List.filter_eq_self]
  exact List.forall_mem_map.mpr h

theorem length_filterMap_of_isSome (f : α → Option β) (l : List α) (h : ∀ x ∈ l, (f x).isSome) :
    (l.filterMap f).length = l.length := by
  simpa using congrArg List.length (map_some_filterMap f l h)

theorem getElem?_filterMap_of_isSome (f : α → Option β) (l : List α) (h : ∀ x ∈ l, (f x).isSome) (k : Nat) :
    (l.filterMap f)[k]? = l[k]?.bind f := by
  have := congrArg (·[k]?) (map_some_filterMap f l h)
  simp only [List.getElem?_map] at this
  cases hk : l[k]? <;> cases hf : (l.filterMap f)[k]? <;> simp_all

theorem isSome_getElem?_of_lt {l : List α} {idx : List Nat} (h : ∀ i ∈ idx, i < l.length) :
    ∀ i ∈ idx, (l[i]?).isSome :=
  fun i hi => by simp [h i hi]

theorem mem_filterMap_getElem? {l : List α} {idx : List Nat} {x : α}
    (h : x ∈ idx.filterMap (l[·]?)) : x ∈ l := by
  obtain ⟨i, _, hi⟩ := List.mem_filterMap.mp h
  exact List.mem_of_getElem? hi

theorem zip_filterMap_getElem? (l₁ : List α) (l₂ : List β) (hl : l₁.length = l₂.length) :
    ∀ (idx : List Nat), (∀ i ∈ idx, i < l₁.length) →
    (idx.filterMap (l₁[·]?)).zip (idx.filterMap (l₂[·]?)) = idx.filterMap ((l₁.zip l₂)[·]?)
  | [], _ => rfl
  | i :: idx, h => by
    have hi : i < l₁.length := h i (by simp)
    have hi2 : i < l₂.length := hl ▸ hi
    have ih := zip_filterMap_getElem? l₁ l₂ hl idx (fun j hj => h j (List.mem_cons_of_mem _ hj))
    have hz : (l₁.zip l₂)[i]? = some (l₁[i], l₂[i]) :=
      List.getElem?_zip_eq_some.mpr ⟨List.getElem?_eq_getElem hi, List.getElem?_eq_getElem hi2⟩
    simp only [List.filterMap_cons, List.getElem?_eq_getElem hi, List.getElem?_eq_getElem hi2, hz,
      List.zip_cons_cons, ih]

theorem filterMap_getElem?_range (l : List α) : (List.range l.length).filterMap (l[·]?) = l := by
  apply List.ext_getElem?
  intro k
  rw [getElem?_filterMap_of_isSome _ _ (isSome_getElem?_of_lt (fun i hi => List.mem_range.mp hi))]
  by_cases hk : k < l.length
  · rw [List.getElem?_range hk]; rfl
  · rw [List.getElem?_eq_none (by simpa using hk), List.getElem?_eq_none (by omega)]; rfl

theorem length_filter_range_eq_count [DecidableEq α] [BEq α] [LawfulBEq α] (vs : List α) (x : α) :
    ((List.range vs.length).filter (fun j => decide (vs[j]? = some x))).length = vs.count x := by
  conv => rhs; rw [← filterMap_getElem?_range vs, List.count_filterMap, List.countP_eq_length_filter]
  congr; funext j
  exact Bool.eq_iff_iff.mpr (by simp)

/-- a two-digit number in base `m`: `q * m + r` with `r < m` splits back into `q` and `r` -/
theorem div_mod_of_lt (m q r : Nat) (h : r < m) : (q * m + r) / m = q ∧ (q * m + r) % m = r := by
  rw [Nat.mul_comm, Nat.mul_add_div (by omega), Nat.mul_add_mod, Nat.div_eq_of_lt h, Nat.mod_eq_of_lt h]
  exact ⟨rfl, rfl⟩

/-- the same read as an equation: a digit below `p` and the rest of a numeral in base `p` are determined by its
    value -/
theorem add_mul_inj {p a b x y : Nat} (ha : a < p) (hb : b < p) (h : a + p * x = b + p * y) : a = b ∧ x = y := by
  have e : x * p + a = y * p + b := by rw [Nat.mul_comm x, Nat.mul_comm y]; omega
  have hx := div_mod_of_lt p x a ha
  rw [e] at hx
  have hy := div_mod_of_lt p y b hb
  exact ⟨hx.2.symm.trans hy.2, hx.1.symm.trans hy.1⟩

end TV
