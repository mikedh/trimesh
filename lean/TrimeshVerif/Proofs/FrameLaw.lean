/-
Frame law for the inertia tensor (C03): what `Trimesh.moment_inertia_frame` returns (traced from the source:
Generated/C03Frame.lean) is the inertia tensor of the solid about the origin of the frame, expressed in the
axes of the frame.  Two steps: parallel-axis shift from the centroid to the frame origin (an identity of
polynomials once the centre of mass is `first moment / volume`), and the change of axes (needs `RᵀR = RRᵀ = 1`).
-/
import TrimeshVerif.Proofs.Affine
import TrimeshVerif.Generated.C03Frame
namespace TV.FrameLaw
open TV.Mat3 TV.Generated.C03Frame

variable {K : Type} [Field K]

def smulM (s : K) (a : M3 K) : M3 K :=
  ⟨s * a.m00, s * a.m01, s * a.m02, s * a.m10, s * a.m11, s * a.m12, s * a.m20, s * a.m21, s * a.m22⟩
/-- `smulM` is `Affine.M3.smul` of Proofs/Mat3.lean: `rotate_inertia` rewrites with this and uses the lemmas there
    (`M3.mul_smul`, `M3.smul_mul`); the entrywise proofs (`frameM_eq`, `parallel_axis_of`) unfold `smulM` itself -/
theorem smulM_eq (s : K) (a : M3 K) : smulM s a = Affine.M3.smul s a := rfl

def subM (a b : M3 K) : M3 K :=
  ⟨a.m00 - b.m00, a.m01 - b.m01, a.m02 - b.m02, a.m10 - b.m10, a.m11 - b.m11, a.m12 - b.m12,
   a.m20 - b.m20, a.m21 - b.m21, a.m22 - b.m22⟩
def addM (a b : M3 K) : M3 K :=
  ⟨a.m00 + b.m00, a.m01 + b.m01, a.m02 + b.m02, a.m10 + b.m10, a.m11 + b.m11, a.m12 + b.m12,
   a.m20 + b.m20, a.m21 + b.m21, a.m22 + b.m22⟩
def trM (a : M3 K) : K := a.m00 + a.m11 + a.m22

/-- inertia tensor from a second-moment matrix `Q = ∫ x xᵀ`: `ρ (tr Q · 1 − Q)` -/
def inertiaOf (rho : K) (q : M3 K) : M3 K := smulM rho (subM (smulM (trM q) 1) q)

/-- second moments about the point `p`, from the moments about the origin:
    `∫ (x−p)(x−p)ᵀ = Q − p Fᵀ − F pᵀ + V p pᵀ`
    (`S 0` volume, `S 1..3` first moments, `S 4..6` = xx, yy, zz, `S 7..9` = xy, yz, zx) -/
def secondAbout (S : Fin 10 → K) (p1 p2 p3 : K) : M3 K :=
  ⟨S 4 - 2 * p1 * S 1 + S 0 * p1 * p1, S 7 - p1 * S 2 - p2 * S 1 + S 0 * p1 * p2, S 9 - p3 * S 1 - p1 * S 3 + S 0 * p3 * p1,
   S 7 - p1 * S 2 - p2 * S 1 + S 0 * p1 * p2, S 5 - 2 * p2 * S 2 + S 0 * p2 * p2, S 8 - p2 * S 3 - p3 * S 2 + S 0 * p2 * p3,
   S 9 - p3 * S 1 - p1 * S 3 + S 0 * p3 * p1, S 8 - p2 * S 3 - p3 * S 2 + S 0 * p2 * p3, S 6 - 2 * p3 * S 3 + S 0 * p3 * p3⟩

/-- the exact inertia tensor about the origin `p` of a frame with axes the columns of `R`, in the frame's own
    coordinates `x' = Rᵀ (x − p)`: second moments `Rᵀ Q(p) R`, then `ρ (tr · 1 − ·)` -/
def exactFrame (S : Fin 10 → K) (rho : K) (R : M3 K) (p1 p2 p3 : K) : M3 K :=
  inertiaOf rho (R.transpose * secondAbout S p1 p2 p3 * R)

/-- the tensor at the centre of mass as the code computes it from the ten sums (all six entries) -/
def codeInertia (S : Fin 10 → K) (rho k1 k2 k3 : K) : M3 K :=
  ⟨rho * (S 5 + S 6 - S 0 * (k2 * k2 + k3 * k3)), -(rho * (S 7 - S 0 * k1 * k2)), -(rho * (S 9 - S 0 * k1 * k3)),
   -(rho * (S 7 - S 0 * k1 * k2)), rho * (S 4 + S 6 - S 0 * (k1 * k1 + k3 * k3)), -(rho * (S 8 - S 0 * k2 * k3)),
   -(rho * (S 9 - S 0 * k1 * k3)), -(rho * (S 8 - S 0 * k2 * k3)), rho * (S 4 + S 5 - S 0 * (k1 * k1 + k2 * k2))⟩

/-- the traced output of `moment_inertia_frame`, as a matrix -/
def frameM (R : M3 K) (p1 p2 p3 c1 c2 c3 m : K) (I : M3 K) : M3 K :=
  ⟨frame00 R.m00 R.m01 R.m02 R.m10 R.m11 R.m12 R.m20 R.m21 R.m22 p1 p2 p3 c1 c2 c3 m I.m00 I.m01 I.m02 I.m11 I.m12 I.m22,
   frame01 R.m00 R.m01 R.m02 R.m10 R.m11 R.m12 R.m20 R.m21 R.m22 p1 p2 p3 c1 c2 c3 m I.m00 I.m01 I.m02 I.m11 I.m12 I.m22,
   frame02 R.m00 R.m01 R.m02 R.m10 R.m11 R.m12 R.m20 R.m21 R.m22 p1 p2 p3 c1 c2 c3 m I.m00 I.m01 I.m02 I.m11 I.m12 I.m22,
   frame10 R.m00 R.m01 R.m02 R.m10 R.m11 R.m12 R.m20 R.m21 R.m22 p1 p2 p3 c1 c2 c3 m I.m00 I.m01 I.m02 I.m11 I.m12 I.m22,
   frame11 R.m00 R.m01 R.m02 R.m10 R.m11 R.m12 R.m20 R.m21 R.m22 p1 p2 p3 c1 c2 c3 m I.m00 I.m01 I.m02 I.m11 I.m12 I.m22,
   frame12 R.m00 R.m01 R.m02 R.m10 R.m11 R.m12 R.m20 R.m21 R.m22 p1 p2 p3 c1 c2 c3 m I.m00 I.m01 I.m02 I.m11 I.m12 I.m22,
   frame20 R.m00 R.m01 R.m02 R.m10 R.m11 R.m12 R.m20 R.m21 R.m22 p1 p2 p3 c1 c2 c3 m I.m00 I.m01 I.m02 I.m11 I.m12 I.m22,
   frame21 R.m00 R.m01 R.m02 R.m10 R.m11 R.m12 R.m20 R.m21 R.m22 p1 p2 p3 c1 c2 c3 m I.m00 I.m01 I.m02 I.m11 I.m12 I.m22,
   frame22 R.m00 R.m01 R.m02 R.m10 R.m11 R.m12 R.m20 R.m21 R.m22 p1 p2 p3 c1 c2 c3 m I.m00 I.m01 I.m02 I.m11 I.m12 I.m22⟩

/-- the parallel-axis matrix `|a|² 1 − a aᵀ` -/
def shiftM (a1 a2 a3 : K) : M3 K :=
  ⟨a2 * a2 + a3 * a3, -(a1 * a2), -(a1 * a3), -(a1 * a2), a1 * a1 + a3 * a3, -(a2 * a3),
   -(a1 * a3), -(a2 * a3), a1 * a1 + a2 * a2⟩

/-- (G) the traced code is `Rᵀ (I + m (|a|² 1 − a aᵀ)) R` with `a = p − c`, for a symmetric `I` -/
theorem frameM_eq {R : M3 K} {p1 p2 p3 c1 c2 c3 m : K} {I : M3 K}
    (h01 : I.m10 = I.m01) (h02 : I.m20 = I.m02) (h12 : I.m21 = I.m12) :
    frameM R p1 p2 p3 c1 c2 c3 m I
      = R.transpose * addM I (smulM m (shiftM (p1 - c1) (p2 - c2) (p3 - c3))) * R := by
  generalize hA : addM I (smulM m (shiftM (p1 - c1) (p2 - c2) (p3 - c3))) = A
  -- Entry (i, j) of `Rᵀ A R` is the form `xᵀ A y` in columns i and j of `R`, and so is the traced entry: `frame02`,
  -- `frame12` are `frame01`, and `frame11`, `frame22` are `frame00`, word for word with other columns for `x`, `y`.
  -- So `ring` compares two traced polynomials, not six; the other entries are instances (by unfolding).
  let f (x1 x2 x3 y1 y2 y3 : K) := (x1 * A.m00 + x2 * A.m10 + x3 * A.m20) * y1
    + (x1 * A.m01 + x2 * A.m11 + x3 * A.m21) * y2 + (x1 * A.m02 + x2 * A.m12 + x3 * A.m22) * y3
  have key (x1 x2 x3 y1 y2 y3 z1 z2 z3 : K) :
      frame00 x1 y1 z1 x2 y2 z2 x3 y3 z3 p1 p2 p3 c1 c2 c3 m I.m00 I.m01 I.m02 I.m11 I.m12 I.m22
        = f x1 x2 x3 x1 x2 x3 ∧
      frame01 x1 y1 z1 x2 y2 z2 x3 y3 z3 p1 p2 p3 c1 c2 c3 m I.m00 I.m01 I.m02 I.m11 I.m12 I.m22
        = f x1 x2 x3 y1 y2 y3 := by
    subst hA
    simp only [f, frame00, frame01, addM, smulM, shiftM, h01, h02, h12]
    constructor <;> ring
  have k0 := key R.m00 R.m10 R.m20 R.m01 R.m11 R.m21 R.m02 R.m12 R.m22
  have k1 := key R.m01 R.m11 R.m21 R.m02 R.m12 R.m22 R.m00 R.m10 R.m20
  -- both sides are symmetric (the traced `frame10`, `frame20`, `frame21` are `frame01`, `frame02`, `frame12` word
  -- for word, so the left side is by `rfl`): six entries decide
  refine M3.ext_of_symm rfl (M3.conj_symm R A ?_) k0.1 k0.2
    (key R.m00 R.m10 R.m20 R.m02 R.m12 R.m22 R.m01 R.m11 R.m21).2 k1.1 k1.2
    (key R.m02 R.m12 R.m22 R.m00 R.m10 R.m20 R.m01 R.m11 R.m21).1
  subst hA
  simp only [addM, smulM, shiftM, M3.transpose, h01, h02, h12]

/-- the parallel-axis identity with the centroid `k` as a variable: a polynomial identity once the first moments
    are `S 0 * k`, so no division and no condition on the volume -/
theorem parallel_axis_of (S : Fin 10 → K) (rho p1 p2 p3 k1 k2 k3 : K)
    (h1 : S 1 = S 0 * k1) (h2 : S 2 = S 0 * k2) (h3 : S 3 = S 0 * k3) :
    addM (codeInertia S rho k1 k2 k3) (smulM (rho * S 0) (shiftM (p1 - k1) (p2 - k2) (p3 - k3)))
      = inertiaOf rho (secondAbout S p1 p2 p3) := by
  simp only [addM, codeInertia, smulM, shiftM, inertiaOf, subM, trM, secondAbout, M3.one_def, M3.one, h1, h2, h3]
  -- both sides are symmetric word for word
  refine M3.ext_of_symm rfl rfl ?_ ?_ ?_ ?_ ?_ ?_ <;> ring

theorem parallel_axis (S : Fin 10 → K) (rho p1 p2 p3 : K) (hV : S 0 ≠ 0) :
    addM (codeInertia S rho (S 1 / S 0) (S 2 / S 0) (S 3 / S 0))
        (smulM (rho * S 0) (shiftM (p1 - S 1 / S 0) (p2 - S 2 / S 0) (p3 - S 3 / S 0)))
      = inertiaOf rho (secondAbout S p1 p2 p3) :=
  parallel_axis_of S rho p1 p2 p3 _ _ _ (mul_div_cancel₀ _ hV).symm (mul_div_cancel₀ _ hV).symm
    (mul_div_cancel₀ _ hV).symm

theorem mul_subM (a b c : M3 K) : a * subM b c = subM (a * b) (a * c) := by
  simp only [subM, M3.mul_def, M3.mul, mul_sub, add_sub_add_comm]

theorem subM_mul (a b c : M3 K) : subM a b * c = subM (a * c) (b * c) := by
  simp only [subM, M3.mul_def, M3.mul, sub_mul, add_sub_add_comm]

theorem trM_mul_comm (a b : M3 K) : trM (a * b) = trM (b * a) := by
  simp only [trM, M3.mul_def, M3.mul]
  ring

/-- the trace is invariant under a change to orthonormal axes: `tr (Rᵀ q R) = tr (q R Rᵀ)` -/
theorem trM_conj (R q : M3 K) (h : R * R.transpose = 1) : trM (R.transpose * q * R) = trM q := by
  rw [M3.mul_assoc', trM_mul_comm, M3.mul_assoc', h, M3.mul_one']

theorem rotate_inertia (rho : K) (R q : M3 K) (h1 : R.transpose * R = 1) (h2 : R * R.transpose = 1) :
    R.transpose * inertiaOf rho q * R = inertiaOf rho (R.transpose * q * R) := by
  -- `Rᵀ (ρ (tr q · 1 − q)) R = ρ (tr q · RᵀR − Rᵀ q R)`, and the trace does not change
  simp only [inertiaOf, smulM_eq]
  rw [Affine.M3.mul_smul, Affine.M3.smul_mul, mul_subM, subM_mul, Affine.M3.mul_smul, Affine.M3.smul_mul,
    M3.mul_one', h1, trM_conj R q h2]

end TV.FrameLaw
