import TrimeshVerif.Model.SceneAppend
import TrimeshVerif.Proofs.ListAux
/-
The renaming loop of `append_scenes` (C10): one pass over a scene returns every node under the name the final table
gives it (`remapAll_spec`), and the table sends the renamed nodes to pairwise different identifiers drawn since the
scene began (`Inv`), for identifiers that are new (`gen` injective).  Props/C10.lean concludes that nodes of different
scenes are never merged and that inside one scene the renaming is one-to-one.  Core Lean only.
-/
namespace TV.SceneAppend

variable {α : Type} [DecidableEq α]

/-- the node gets a new name: it is not common to the scenes and its name is already in use (`consumed`) -/
def ren (common consumed : List α) (n : α) : Bool := !common.contains n && consumed.contains n

def name (t : List (α × α)) (n : α) : α := (t.lookup n).getD n

theorem name_of_some {t : List (α × α)} {n v : α} (h : t.lookup n = some v) : name t n = v := by
  rw [name, h, Option.getD_some]

theorem name_of_none {t : List (α × α)} {n : α} (h : t.lookup n = none) : name t n = n := by
  rw [name, h, Option.getD_none]

/-- while a scene is appended and the nodes `seen` have been looked up: `map_node` sends nodes to pairwise different
    identifiers drawn since `ctr0`, every renamed node among `seen` is in it, and `current` holds the names of `seen` -/
structure Inv (gen : Nat → α) (common consumed : List α) (ctr0 : Nat) (seen : List α) (st : Loc α) : Prop where
  ctr_ge : ctr0 ≤ st.ctr
  map_vals : ∀ p ∈ st.mapNode, ∃ c, ctr0 ≤ c ∧ c < st.ctr ∧ p.2 = gen c
  map_inj : ∀ p ∈ st.mapNode, ∀ q ∈ st.mapNode, p.2 = q.2 → p = q
  map_cur : ∀ p ∈ st.mapNode, p.2 ∈ st.current
  cur_src : ∀ x ∈ st.current, x ∈ seen ∨ ∃ c, ctr0 ≤ c ∧ c < st.ctr ∧ x = gen c
  seen_ren : ∀ m ∈ seen, st.mapNode.lookup m = none → ren common consumed m = false
  seen_cur : ∀ m ∈ seen, name st.mapNode m ∈ st.current

/-- one call of `node_remap`: the node is seen, no earlier name changes, and the call returns the node's name -/
theorem remap_spec (gen : Nat → α) (hgen : ∀ a b, gen a = gen b → a = b) (common consumed : List α)
    (ctr0 : Nat) (seen : List α) (st : Loc α) (n : α) (hinv : Inv gen common consumed ctr0 seen st) :
    let r := remap gen common consumed st n
    Inv gen common consumed ctr0 (seen ++ [n]) r.1 ∧
    (∀ m ∈ seen, name r.1.mapNode m = name st.mapNode m) ∧ r.2 = name r.1.mapNode n := by
  have snoc : ∀ {p : α → Prop}, (∀ m ∈ seen, p m) → p n → ∀ m ∈ seen ++ [n], p m :=
    fun h hn => List.forall_mem_append.mpr ⟨h, List.forall_mem_singleton.mpr hn⟩
  fun_cases remap gen common consumed st n
  case case1 v hl =>  -- the node is in the table
    have hv := name_of_some hl
    exact ⟨⟨hinv.ctr_ge, hinv.map_vals, hinv.map_inj, hinv.map_cur,
        fun x hx => (hinv.cur_src x hx).imp_left (List.mem_append_left _),
        snoc hinv.seen_ren (fun h => nomatch hl.symm.trans h),
        snoc hinv.seen_cur (hv ▸ hinv.map_cur _ (mem_of_lookup_eq_some hl))⟩,
      fun _ _ => rfl, hv.symm⟩
  case case2 hl hr g =>  -- it is renamed to `g = gen st.ctr`
    replace hr : ren common consumed n = true := hr
    -- the identifier this call draws differs from every value stored before
    have hnew : ∀ p ∈ st.mapNode, p.2 ≠ g := fun p hp e => by
      obtain ⟨c, _, hc, hpc⟩ := hinv.map_vals p hp
      have := hgen _ _ (hpc.symm.trans e); omega
    have hlt : ∀ x, (∃ c, ctr0 ≤ c ∧ c < st.ctr ∧ x = gen c) → ∃ c, ctr0 ≤ c ∧ c < st.ctr + 1 ∧ x = gen c :=
      fun x ⟨c, h1, h2, h3⟩ => ⟨c, h1, Nat.lt_succ_of_lt h2, h3⟩
    have hself : ∃ c, ctr0 ≤ c ∧ c < st.ctr + 1 ∧ g = gen c :=
      ⟨st.ctr, hinv.ctr_ge, Nat.lt_succ_self _, rfl⟩
    -- a node seen before has its entry already, so the new entry is not about it
    have hne : ∀ m ∈ seen, (m == n) = false := fun m hm => by
      simpa using fun e : m = n => by rw [e] at hm; rw [hinv.seen_ren n hm hl] at hr; cases hr
    refine ⟨⟨Nat.le_succ_of_le hinv.ctr_ge, ?_, ?_, ?_, ?_, ?_, ?_⟩,
      fun m hm => by simp [name, List.lookup_cons, hne m hm], by simp [name]⟩
    · exact List.forall_mem_cons.mpr ⟨hself, fun p hp => hlt _ (hinv.map_vals p hp)⟩
    · intro p hp q hq e
      rcases List.mem_cons.mp hp with rfl | hp <;> rcases List.mem_cons.mp hq with rfl | hq
      · rfl
      · exact absurd e.symm (hnew q hq)
      · exact absurd e (hnew p hp)
      · exact hinv.map_inj p hp q hq e
    · exact List.forall_mem_cons.mpr
        ⟨List.mem_cons_self, fun p hp => List.mem_cons_of_mem _ (hinv.map_cur p hp)⟩
    · exact List.forall_mem_cons.mpr
        ⟨Or.inr hself, fun x hx => (hinv.cur_src x hx).imp (List.mem_append_left _) (hlt x)⟩
    · exact snoc (fun m hm h => hinv.seen_ren m hm (by rwa [List.lookup_cons, hne m hm] at h))
        fun h => by simp at h
    · exact snoc (fun m hm => by
        simpa [name, List.lookup_cons, hne m hm] using List.mem_cons_of_mem _ (hinv.seen_cur m hm))
        (by simp [name])
  case case3 hl hr =>  -- it keeps its name
    have hn := name_of_none hl
    exact ⟨⟨hinv.ctr_ge, hinv.map_vals, hinv.map_inj,
        fun p hp => List.mem_cons_of_mem _ (hinv.map_cur p hp),
        List.forall_mem_cons.mpr ⟨Or.inl (List.mem_append_right _ List.mem_cons_self),
          fun x hx => (hinv.cur_src x hx).imp_left (List.mem_append_left _)⟩,
        snoc hinv.seen_ren fun _ => Bool.eq_false_iff.mpr hr,
        snoc (fun m hm => List.mem_cons_of_mem _ (hinv.seen_cur m hm)) (by rw [hn]; exact List.mem_cons_self)⟩,
      fun _ _ => rfl, hn.symm⟩

theorem remapAll_spec (gen : Nat → α) (hgen : ∀ a b, gen a = gen b → a = b) (common consumed : List α)
    (ctr0 : Nat) : ∀ (ns seen : List α) (st : Loc α), Inv gen common consumed ctr0 seen st →
    let r := remapAll gen common consumed st ns
    Inv gen common consumed ctr0 (seen ++ ns) r.1 ∧
    (∀ m ∈ seen, name r.1.mapNode m = name st.mapNode m) ∧ r.2 = ns.map (name r.1.mapNode)
  | [], _, _, hinv => ⟨by rwa [List.append_nil], fun _ _ => rfl, rfl⟩
  | n :: ns, seen, st, hinv => by
    obtain ⟨i1, s1, o1⟩ := remap_spec gen hgen common consumed ctr0 seen st n hinv
    obtain ⟨i2, s2, o2⟩ := remapAll_spec gen hgen common consumed ctr0 ns (seen ++ [n]) _ i1
    rw [List.append_assoc] at i2
    simp only [remapAll, List.map_cons]
    exact ⟨i2, fun m hm => (s2 m (List.mem_append_left _ hm)).trans (s1 m hm),
      by rw [o2, o1, s2 n (List.mem_append_right _ List.mem_cons_self)]⟩

theorem inv_init (gen : Nat → α) (common consumed : List α) (ctr : Nat) :
    Inv gen common consumed ctr [] ⟨[], [], ctr⟩ :=
  ⟨Nat.le_refl _, nofun, nofun, nofun, nofun, nofun, nofun⟩

end TV.SceneAppend
