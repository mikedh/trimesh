/-
Lemmas for `fix_winding` (C18; the theorems are `C18_fix_winding`, `C18_winding_unique_up_to_components`): a traversal
along *any* search forest that spans the adjacency graph produces a consistent winding whenever one exists (orientable
surface), independently of the traversal order and of the start faces.  Here: what one traversal step keeps
(`traverse_inv`), consistency measured against a second winding (`consistent_iff`), and the executable traversal.
Core Lean only.
-/
import TrimeshVerif.Model.Winding
namespace TV.Winding

/-! `bxor` is core's `xor` -/
theorem bxor_self (a : Bool) : bxor a a = false := Bool.xor_self a
theorem bxor_comm (a b : Bool) : bxor a b = bxor b a := Bool.xor_comm a b
theorem bxor_assoc (a b c : Bool) : bxor (bxor a b) c = bxor a (bxor b c) := Bool.xor_assoc a b c
theorem bxor_false (a : Bool) : bxor a false = a := Bool.xor_false a

/-- nodes connected through tree edges (in either direction) -/
inductive TConn (tree : List (Nat × Nat)) : Nat → Nat → Prop where
  | refl (a : Nat) : TConn tree a a
  | fwd {a b c : Nat} : TConn tree a b → (b, c) ∈ tree → TConn tree a c
  | bwd {a b c : Nat} : TConn tree a b → (c, b) ∈ tree → TConn tree a c

theorem TConn.const {α : Type} {tree : List (Nat × Nat)} {z : Nat → α} (hz : ∀ e ∈ tree, z e.1 = z e.2) {a b : Nat}
    (hab : TConn tree a b) : z a = z b := by
  induction hab with
  | refl => rfl
  | fwd _ hm ih => rw [ih]; exact hz _ hm
  | bwd _ hm ih => rw [ih]; exact (hz _ hm).symm

/-- a step changes the flip of the child only ... -/
theorem step_of_ne (w : SameDir) (x : Flips) (e : Nat × Nat) {i : Nat} (hi : i ≠ e.2) : step w x e i = x i := by
  unfold step
  split
  · exact if_neg hi
  · rfl

/-- ... and leaves the pair it looked at consistent -/
theorem inconsistent_step (w : SameDir) (x : Flips) {f g : Nat} (hfg : f ≠ g) :
    inconsistent w (step w x (f, g)) f g = false := by
  unfold step
  split
  · rename_i hc
    -- reversing `g` alone toggles the test
    unfold inconsistent at hc ⊢
    unfold setFlip
    rw [if_neg hfg, if_pos rfl]
    exact (Bool.xor_not _ _).trans (congrArg not hc)
  · rename_i hc
    exact Bool.eq_false_iff.2 hc

/-- along a traversal in search order the faces seen so far keep their flips (every child is new), so every
    processed tree edge stays consistent to the end -/
theorem traverse_inv (w : SameDir) : ∀ (tree : List (Nat × Nat)) (seen : List Nat) (x : Flips),
    treeOrder tree seen = true →
    (∀ i ∈ seen, (tree.foldl (step w) x) i = x i) ∧
    (∀ e ∈ tree, inconsistent w (tree.foldl (step w) x) e.1 e.2 = false)
  | [], seen, x, _ => ⟨fun i _ => rfl, nofun⟩
  | (f, g) :: t, seen, x, h => by
    simp only [treeOrder, Bool.and_eq_true, Bool.not_eq_true', decide_eq_true_eq] at h
    obtain ⟨⟨hg, hfg⟩, ht⟩ := h
    obtain ⟨keep, ok⟩ := traverse_inv w t (g :: f :: seen) (step w x (f, g)) ht
    refine ⟨fun i hi => ?_, List.forall_mem_cons.2 ⟨?_, ok⟩⟩
    · -- `g` is new, so `i` is not the face the step changes
      rw [List.foldl_cons, keep i (by simp [hi]), step_of_ne]
      rintro rfl
      simp [hi] at hg
    · -- `f` and `g` keep their flips for the rest of the traversal
      unfold inconsistent
      rw [List.foldl_cons, keep f (by simp), keep g (by simp)]
      exact inconsistent_step w x hfg

/-- measured against a winding `y` that is consistent on the pair `(f, g)`, a winding `x` is consistent on it
    exactly when `x ⊕ y` takes the same value on both faces -/
theorem consistent_iff (w : SameDir) (x y : Flips) (f g : Nat) (hy : inconsistent w y f g = false) :
    inconsistent w x f g = false ↔ bxor (x f) (y f) = bxor (x g) (y g) :=
  -- by `hy`, `w f g = y f ⊕ y g`, which makes the test on `x` the sum `(x f ⊕ y f) ⊕ (x g ⊕ y g)`: an identity of five
  -- truth values
  (by decide : ∀ a p q r s : Bool, bxor (bxor a r) s = false → (bxor (bxor a p) q = false ↔ bxor p r = bxor q s))
    _ _ _ _ _ hy

theorem inconsistent_swap (w : SameDir) (x : Flips) (f g : Nat) (hsym : w f g = w g f) :
    inconsistent w x g f = inconsistent w x f g := by
  unfold inconsistent
  rw [hsym]
  cases w g f <;> cases x f <;> cases x g <;> rfl

/-! ### the executable traversal computes the same flips -/

theorem look_stepL (w : SameDir) (xl : List Bool) (e : Nat × Nat) (hlen : e.2 < xl.length) :
    look (stepL w xl e) = step w (look xl) e := by
  funext i
  unfold stepL step
  split
  · by_cases hi : i = e.2
    · subst hi; simp [look, setFlip, List.getD_eq_getElem?_getD, hlen]
    · simp [look, setFlip, List.getD_eq_getElem?_getD, hi, Ne.symm hi]
  · rfl

theorem length_stepL (w : SameDir) (xl : List Bool) (e : Nat × Nat) : (stepL w xl e).length = xl.length := by
  unfold stepL; split <;> simp

theorem look_foldl_stepL (w : SameDir) : ∀ (tree : List (Nat × Nat)) (xl : List Bool),
    (∀ e ∈ tree, e.2 < xl.length) → look (tree.foldl (stepL w) xl) = tree.foldl (step w) (look xl)
  | [], _, _ => rfl
  | e :: t, xl, hn => by
    rw [List.foldl_cons, List.foldl_cons, ← look_stepL w xl e (hn e List.mem_cons_self)]
    exact look_foldl_stepL w t _ fun e' he' => by rw [length_stepL]; exact hn e' (List.mem_cons_of_mem _ he')

end TV.Winding
