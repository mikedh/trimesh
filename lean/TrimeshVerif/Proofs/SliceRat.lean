/-
C11, the rational track (the code as written; Proofs/Slice.lean says how it stands to the field track): the
per-triangle section segment of `mesh_plane` over exact rationals (Model/Slice.lean, `sectionTri`).

Which ends the code emits depends on the three signs only: `secPlan` names them (a corner, or the crossing of
an edge), its 27-row table is checked by `decide` (`secPlan_spec`), and `section_ends` turns it into the two
kinds of point a proof about the segment has to consider.
-/
import TrimeshVerif.Model.Slice
import Mathlib.Tactic.Ring
import Mathlib.Tactic.Linarith
import Mathlib.Algebra.Order.Field.Rat
import Mathlib.Algebra.Order.Field.Basic
namespace TV.Slice

/-! ### the crossing point of an edge -/

/-- numerator and denominator of the parameter in `edgePointR`, as signed distances -/
theorem edgePointR_num (n o a : V) : dotV (subV o a) n = - sdistR n o a := by
  obtain ⟨n1, n2, n3⟩ := n
  obtain ⟨o1, o2, o3⟩ := o
  obtain ⟨a1, a2, a3⟩ := a
  simp only [sdistR, dotV, subV]
  ring

theorem edgePointR_den (n o a b : V) : dotV (subV b a) n = sdistR n o b - sdistR n o a := by
  obtain ⟨n1, n2, n3⟩ := n
  obtain ⟨o1, o2, o3⟩ := o
  obtain ⟨a1, a2, a3⟩ := a
  obtain ⟨b1, b2, b3⟩ := b
  simp only [sdistR, dotV, subV]
  ring

theorem sdistR_affine (n o a b : V) (s : Rat) :
    sdistR n o (addV a (smulV s (subV b a))) = sdistR n o a + s * dotV (subV b a) n := by
  obtain ⟨n1, n2, n3⟩ := n
  obtain ⟨o1, o2, o3⟩ := o
  obtain ⟨a1, a2, a3⟩ := a
  obtain ⟨b1, b2, b3⟩ := b
  simp only [sdistR, dotV, subV, addV, smulV]
  ring

theorem edgePointR_on_plane (n o a b : V) (h : sdistR n o a ≠ sdistR n o b) :
    sdistR n o (edgePointR n o a b) = 0 := by
  have hD : dotV (subV b a) n ≠ 0 := by
    rw [edgePointR_den n o a b]
    intro h0
    exact h (by linarith)
  rw [edgePointR, sdistR_affine, div_mul_cancel₀ _ hD, edgePointR_num]
  ring

theorem edgePointR_between (tol : Rat) (htol : 0 ≤ tol) (n o a b : V)
    (h : sdistR n o a < -tol ∧ tol < sdistR n o b ∨ sdistR n o b < -tol ∧ tol < sdistR n o a) :
    ∃ s : Rat, 0 < s ∧ s < 1 ∧ edgePointR n o a b = addV a (smulV s (subV b a)) := by
  refine ⟨_, ?_, ?_, rfl⟩ <;> rw [edgePointR_num, edgePointR_den n o a b]
  · rcases h with ⟨h1, h2⟩ | ⟨h1, h2⟩
    · exact div_pos (by linarith) (by linarith)
    · exact div_pos_of_neg_of_neg (by linarith) (by linarith)
  · rcases h with ⟨h1, h2⟩ | ⟨h1, h2⟩
    · rw [div_lt_one (by linarith)]
      linarith
    · rw [div_lt_one_of_neg (by linarith)]
      linarith

/-- so it is never below the tolerance band -/
theorem edgePointR_ge_neg_tol (tol : Rat) (htol : 0 ≤ tol) (n o u v : V) (h : sdistR n o u ≠ sdistR n o v) :
    -tol ≤ sdistR n o (edgePointR n o u v) := by
  rw [edgePointR_on_plane n o u v h]; linarith

/-! ### the ends, on the three signs -/

def sel (x y z : Int) (j : Nat) : Int := match j % 3 with | 0 => x | 1 => y | _ => z

theorem sel_nth (f : V → Int) (t : Tri) (j : Nat) :
    sel (f (nth t 0)) (f (nth t 1)) (f (nth t 2)) j = f (nth t j) := by
  unfold sel nth
  generalize j % 3 = r
  rcases r with _ | _ | r <;> rfl

theorem nth_mem (t : Tri) (k : Nat) : nth t k ∈ [t.1, t.2.1, t.2.2] := by
  unfold nth; split <;> simp

/-- an end of the section segment: corner `i`, or where the plane crosses edge `i → j` -/
inductive End where
  | corner (i : Nat)
  | cross (i j : Nat)

def End.pt (n o : V) (t : Tri) : End → V
  | .corner i => nth t i
  | .cross i j => edgePointR n o (nth t i) (nth t j)

def secPlan (x y z : Int) : Option (End × End) :=
  if isBasic x y z then
    if x != y && x != z then some (.cross 0 2, .cross 0 1)
    else if y != x && y != z then some (.cross 1 0, .cross 1 2)
    else some (.cross 2 1, .cross 2 0)
  else if isOneVertex x y z then
    if x == 0 then some (.corner 0, .cross 1 2)
    else if y == 0 then some (.corner 1, .cross 0 2)
    else some (.corner 2, .cross 0 1)
  else if isOneEdge x y z then
    if x != 0 then some (.corner 1, .corner 2) else if y != 0 then some (.corner 0, .corner 2)
    else some (.corner 0, .corner 1)
  else none

theorem sectionTri_eq (tol : Rat) (n o : V) (t : Tri) :
    sectionTri tol n o t =
      (secPlan (signR tol (sdistR n o (nth t 0))) (signR tol (sdistR n o (nth t 1)))
        (signR tol (sdistR n o (nth t 2)))).map (fun e => (e.1.pt n o t, e.2.pt n o t)) := by
  unfold secPlan
  simp only [apply_ite (Option.map _)]
  rfl

/-- what an end says about the signs: the corner is in the band, the edge has its ends on opposite sides -/
def End.Spec (x y z : Int) : End → Prop
  | .corner i => sel x y z i = 0
  | .cross i j => sel x y z i = -1 ∧ sel x y z j = 1 ∨ sel x y z j = -1 ∧ sel x y z i = 1

instance (x y z : Int) (e : End) : Decidable (e.Spec x y z) := by
  cases e <;> unfold End.Spec <;> infer_instance

theorem secPlan_spec : ∀ x ∈ signs, ∀ y ∈ signs, ∀ z ∈ signs, ∀ e ∈ secPlan x y z,
    e.1.Spec x y z ∧ e.2.Spec x y z := by decide

/-! ### signs and sides -/

theorem signR_mem (tol d : Rat) : signR tol d ∈ signs := by
  unfold signR signs; split_ifs <;> simp

theorem signR_eq_neg_one (tol d : Rat) : signR tol d = -1 ↔ d < -tol := by
  unfold signR; split_ifs <;> simp_all

theorem signR_eq_one (tol d : Rat) (htol : 0 ≤ tol) : signR tol d = 1 ↔ tol < d := by
  unfold signR; split_ifs <;> simp_all <;> linarith

theorem signR_eq_zero (tol d : Rat) : signR tol d = 0 ↔ -tol ≤ d ∧ d ≤ tol := by
  unfold signR; split_ifs <;> simp_all

theorem absR_le (tol x : Rat) (h1 : -tol ≤ x) (h2 : x ≤ tol) : absR x ≤ tol := by
  unfold absR
  split <;> linarith

/-- every end `sectionTri` emits is a corner inside the tolerance band or the crossing point of an edge whose
    ends are strictly on opposite sides of the band: what holds of those holds of both ends -/
theorem section_ends (tol : Rat) (htol : 0 ≤ tol) (n o : V) (t : Tri) (p q : V)
    (h : sectionTri tol n o t = some (p, q)) (P : V → Prop)
    (hc : ∀ i, -tol ≤ sdistR n o (nth t i) ∧ sdistR n o (nth t i) ≤ tol → P (nth t i))
    (hx : ∀ i j, sdistR n o (nth t i) < -tol ∧ tol < sdistR n o (nth t j) ∨
        sdistR n o (nth t j) < -tol ∧ tol < sdistR n o (nth t i) → P (edgePointR n o (nth t i) (nth t j))) :
    ∀ x ∈ [p, q], P x := by
  rw [sectionTri_eq, Option.map_eq_some_iff] at h
  obtain ⟨⟨e1, e2⟩, he, hpq⟩ := h
  obtain ⟨h1, h2⟩ := secPlan_spec _ (signR_mem tol _) _ (signR_mem tol _) _ (signR_mem tol _) _ he
  cases hpq
  have key : ∀ e : End, e.Spec (signR tol (sdistR n o (nth t 0))) (signR tol (sdistR n o (nth t 1)))
      (signR tol (sdistR n o (nth t 2))) → P (e.pt n o t) := by
    intro e he
    cases e <;>
      simp only [End.Spec, sel_nth (fun x => signR tol (sdistR n o x)), signR_eq_zero, signR_eq_neg_one,
        signR_eq_one _ _ htol] at he
    · exact hc _ he
    · exact hx _ _ he
  simpa using ⟨key e1 h1, key e2 h2⟩

end TV.Slice
