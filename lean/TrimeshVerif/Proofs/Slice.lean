/-
C11, the field track: what is true of every plane, triangle and edge over a field (`sdist`, `edgePoint`, `lerp`; the
theorems `C11_on_plane_on_edge` … `C11_shifted_plane` of Props/C11.lean): the crossing point of an edge is on the plane
and inside the edge, the pieces of a cut triangle keep its plane, winding, area and volume.

This is geometry, not the code.  What `mesh_plane` and `slice_faces_plane` do as written - signs with a tolerance band,
the handlers' index rotation, the split of the quad - is the rational track (Model/Slice.lean, Proofs/SliceRat.lean,
Proofs/SlicePieces.lean), which the driver compares with trimesh face by face.  No theorem connects the two tracks, on
purpose: `sdist n o p` is `n · (p − o)` where the code's `sdistR n o p` is `(p − o) · n`, the crossing parameter and the
second cut point are measured from other ends, and the quad `(p, b, c, q)` is split along `p c` here and along `b q` by the
code.  A bridge would cost a rewrite lemma per definition, and the facts about the quad would still not carry over.
-/
import TrimeshVerif.Proofs.Affine
import Mathlib.Tactic.FieldSimp
namespace TV.Slice
open TV.Mat3 TV.Affine

variable {K : Type} [Field K]

/-- signed distance (up to the normal's length) of a point to the plane through `o` with normal `n` -/
def sdist (n o p : V3 K) : K := dot n (sub p o)

/-- the crossing point of the edge (a, b): `a + t (b - a)` with `t = d_a / (d_a - d_b)` -/
def edgeParam (n o a b : V3 K) : K := sdist n o a / (sdist n o a - sdist n o b)
def edgePoint (n o a b : V3 K) : V3 K := add a (smul (edgeParam n o a b) (sub b a))

/-- a point on the segment from a to b with parameter s -/
def lerp (a b : V3 K) (s : K) : V3 K := add a (smul s (sub b a))

theorem sdist_lerp (n o a b : V3 K) (s : K) :
    sdist n o (lerp a b s) = (1 - s) * sdist n o a + s * sdist n o b := by
  obtain ⟨n1, n2, n3⟩ := n
  obtain ⟨o1, o2, o3⟩ := o
  obtain ⟨a1, a2, a3⟩ := a
  obtain ⟨b1, b2, b3⟩ := b
  simp only [sdist, lerp, dot, add, smul, sub]
  ring

theorem edgePoint_eq_lerp (n o a b : V3 K) : edgePoint n o a b = lerp a b (edgeParam n o a b) := rfl

theorem sdist_edgePoint (n o a b : V3 K) (h : sdist n o a - sdist n o b ≠ 0) :
    sdist n o (edgePoint n o a b) = 0 := by
  rw [edgePoint_eq_lerp, sdist_lerp, edgeParam]
  field_simp
  ring

theorem sdist_shift (n o p : V3 K) (h : K) :
    sdist n (add o (smul h n)) p = sdist n o p - h * dot n n := by
  obtain ⟨n1, n2, n3⟩ := n
  obtain ⟨o1, o2, o3⟩ := o
  obtain ⟨p1, p2, p3⟩ := p
  simp only [sdist, dot, add, smul, sub]
  ring

end TV.Slice
