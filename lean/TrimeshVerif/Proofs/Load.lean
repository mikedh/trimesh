/-
C20: the enumerator `runBlock` misses no execution of the relational semantics (`execBlock_mem`); what the GLB chunk
loop returns and what an accepted PLY header scan consumed are bounded by the input (`binChunks_bound`,
`scanHeader_ok`); the guards of the glTF strided read as a conjunction (`stridedOk_iff`).
-/
import TrimeshVerif.Model.Load
import TrimeshVerif.Proofs.Codec
namespace TV.Load
open TV.Codec

/-! ### the enumerator is complete for the relational semantics -/

theorem runAlts_eq (alts : List (List Stmt)) (s : St) : runAlts alts s = alts.flatMap (runBlock · s) := by
  induction alts with
  | nil => rfl
  | cons a rest ih => rw [runAlts, ih, List.flatMap_cons]

/- A compound statement enumerates `(runBlock body s).flatMap k`: every result `r` of its body, continued by the list
   `k r`.  An execution is found there by following it: the body's result by recursion, then its own result in `k r`,
   where the `if` in `k` is decided by evaluation or by the side condition of the rule. -/
mutual
theorem execStmt_mem : ∀ {st : Stmt} {s s' : St} {status : Status},
    ExecStmt st s s' status → (s', status) ∈ runStmt st s
  | _, _, _, _, .openFile s => List.mem_singleton_self _
  | _, _, _, _, .setFlag s => List.mem_singleton_self _
  | _, _, _, _, .closeYes s h => by simp [runStmt, h]
  | _, _, _, _, .closeNo s h => by simp [runStmt, h]
  | _, _, _, _, .callOk s => List.mem_cons_self
  | _, _, _, _, .callRaise s => by simp [runStmt]
  | _, _, _, _, .raise s => List.mem_singleton_self _
  | _, _, _, _, .ret s => List.mem_singleton_self _
  | _, _, _, _, .branch alts a s s' st ha h => by
    rw [runStmt, runAlts_eq]
    exact List.mem_flatMap_of_mem ha (execBlock_mem h)
  | _, _, _, _, .finallyNormal body fin s s1 s2 st hb hf =>
    List.mem_flatMap_of_mem (execBlock_mem hb) (List.mem_map.2 ⟨_, execBlock_mem hf, rfl⟩)
  | _, _, _, _, .finallyOverride body fin s s1 s2 st st' hb hf hne =>
    List.mem_flatMap_of_mem (execBlock_mem hb)
      (List.mem_map.2 ⟨_, execBlock_mem hf, congrArg (Prod.mk s2) (if_neg hne)⟩)
  | _, _, _, _, .exceptPass body handler s s1 st hb hne =>
    List.mem_flatMap_of_mem (execBlock_mem hb) (by rw [if_neg hne]; exact List.mem_singleton_self _)
  | _, _, _, _, .exceptCatch body handler s s1 s2 st hb hh =>
    List.mem_flatMap_of_mem (execBlock_mem hb) (execBlock_mem hh)
theorem execBlock_mem : ∀ {prog : List Stmt} {s s' : St} {status : Status},
    ExecBlock prog s s' status → (s', status) ∈ runBlock prog s
  | _, _, _, _, .nil s => List.mem_singleton_self _
  | _, _, _, _, .step st rest s s1 s2 status h1 h2 =>
    List.mem_flatMap_of_mem (execStmt_mem h1) (execBlock_mem h2)
  | _, _, _, _, .stop st rest s s1 status h1 hne =>
    List.mem_flatMap_of_mem (execStmt_mem h1) (by rw [if_neg hne]; exact List.mem_singleton_self _)
end

/-! ### what is accepted is bounded by the input: GLB chunk loop, PLY header scan, glTF strided read -/

theorem binChunks_bound (fuel : Nat) (rest : Bytes) (consumed length : Nat) (cs : List Bytes)
    (h : binChunks fuel rest consumed length = .ok cs) :
    (cs.map List.length).sum + 8 * cs.length ≤ rest.length := by
  fun_induction binChunks fuel rest consumed length generalizing cs
  -- a chunk of the announced length `cl ≤ (rest.drop 8).length` is read and the loop goes on behind it
  case case6 hcl cs' hrec ih =>
    cases h
    have := ih cs' hrec
    simp only [List.length_drop, List.map_cons, List.sum_cons, List.length_cons, List.length_take] at this hcl ⊢
    omega
  -- every other branch is an error or returns no chunk
  all_goals cases h
  all_goals exact Nat.zero_le _

/-- The induction step of `scanHeader_ok`: a line `l` that does not end the header is consumed and the scan goes on
    from line `n + 1` with an accumulator `acc'` at most one element longer than `acc` (`ha`); what `scanHeader_ok`
    claims of that scan (`h`) gives its claim at `l :: rest`, `acc`, `n` -/
theorem scanHeader_ok_cons {l : List String} {rest : List (List String)} {acc acc' es : List Elem} {n k : Nat}
    (ha : acc'.length ≤ acc.length + 1)
    (h : (∃ l' ∈ rest, l'.contains "end_header" = true) ∧
      n + 1 < k ∧ k ≤ n + 1 + rest.length ∧ es.length ≤ acc'.length + rest.length) :
    (∃ l' ∈ l :: rest, l'.contains "end_header" = true) ∧
      n < k ∧ k ≤ n + (l :: rest).length ∧ es.length ≤ acc.length + (l :: rest).length := by
  obtain ⟨⟨l', hl', hc⟩, h1⟩ := h
  rw [List.length_cons]
  exact ⟨⟨l', List.mem_cons_of_mem _ hl', hc⟩, by omega⟩

/-- an accepted header scan stopped at a line holding `end_header`, consumed at least one line and no more than
    there are, and declared at most one element per line -/
theorem scanHeader_ok (lines : List (List String)) (acc : List Elem) (n : Nat) (es : List Elem) (k : Nat)
    (h : scanHeader lines acc n = .ok (es, k)) :
    (∃ l ∈ lines, l.contains "end_header" = true) ∧
      n < k ∧ k ≤ n + lines.length ∧ es.length ≤ acc.length + lines.length := by
  fun_induction scanHeader lines acc n
  -- the line holds `end_header`: the scan stops and returns the accumulator
  case case2 line rest acc n hc =>
    cases h
    rw [List.length_reverse, List.length_cons]
    exact ⟨⟨line, List.mem_cons_self, hc⟩, by omega⟩
  -- the five branches that go on to the next line: only the first makes the accumulator longer
  case case4 ih => exact scanHeader_ok_cons (Nat.le_refl _) (ih h)   -- `element` line: one element more
  case case8 ih => exact scanHeader_ok_cons (Nat.le_succ _) (ih h)   -- scalar `property`: counted on the last element
  case case11 ih => exact scanHeader_ok_cons (Nat.le_succ _) (ih h)  -- `list` property: likewise
  case case14 ih => exact scanHeader_ok_cons (Nat.le_succ _) (ih h)  -- `property` line of another shape: skipped
  case case16 ih => exact scanHeader_ok_cons (Nat.le_succ _) (ih h)  -- any other line: skipped
  -- every other branch is an error
  all_goals cases h

theorem stridedOk_iff (n start stride count perRow : Int) :
    stridedOk n start stride count perRow = true ↔
      0 < stride ∧ 0 ≤ start ∧ start ≤ start + ((count - 1) * stride + perRow)
        ∧ start + ((count - 1) * stride + perRow) ≤ n := by
  simp only [stridedOk, Bool.and_eq_true, decide_eq_true_eq, and_assoc]

end TV.Load
