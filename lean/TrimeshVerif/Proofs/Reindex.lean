import TrimeshVerif.Model.Reindex
import TrimeshVerif.Proofs.ListAux
import TrimeshVerif.Proofs.SortRuns
/-
Helper lemmas for C07 (re-indexing): Boolean masks and their inverse, properties of all corners of all faces
(`AllCorners`) under re-pointing, appending meshes, the referenced vertices, and `merge_vertices` as a statement
about lists (`merge_select`).  Core Lean only.
-/
namespace TV.Reindex
open TV

variable {α β γ δ : Type}

@[simp] theorem maskFilter_nil_left (mask : List Bool) : maskFilter ([] : List γ) mask = [] := by
  simp [maskFilter]

@[simp] theorem maskFilter_nil_right (l : List γ) : maskFilter l [] = [] := by
  simp [maskFilter]

theorem maskFilter_cons_cons (x : γ) (l : List γ) (b : Bool) (mask : List Bool) :
    maskFilter (x :: l) (b :: mask) = if b then x :: maskFilter l mask else maskFilter l mask := by
  cases b <;> simp [maskFilter]

theorem maskFilter_map (f : γ → δ) (l : List γ) (mask : List Bool) :
    maskFilter (l.map f) mask = (maskFilter l mask).map f := by
  simp [maskFilter, List.zip_map_left, List.filter_map, Function.comp_def]

theorem mem_of_mem_maskFilter {x : γ} {l : List γ} {mask : List Bool} (h : x ∈ maskFilter l mask) : x ∈ l := by
  obtain ⟨p, hp, rfl⟩ := List.mem_map.mp h
  exact (List.of_mem_zip (List.mem_filter.mp hp).1).1

/-- lists of one length keep equally many elements: both results are projections of the masked zip -/
theorem maskFilter_length_congr (l₁ : List γ) (l₂ : List δ) (mask : List Bool) (h : l₁.length = l₂.length) :
    (maskFilter l₁ mask).length = (maskFilter l₂ mask).length := by
  have e1 := maskFilter_map Prod.fst (l₁.zip l₂) mask
  have e2 := maskFilter_map Prod.snd (l₁.zip l₂) mask
  rw [List.map_fst_zip (Nat.le_of_eq h)] at e1
  rw [List.map_snd_zip (Nat.le_of_eq h.symm)] at e2
  rw [e1, e2, List.length_map, List.length_map]

/-- a kept element sits at the position given by the number of kept elements before it -/
theorem maskFilter_getElem?_count : ∀ (l : List γ) (mask : List Bool) (i : Nat),
    mask.getD i false = true →
    (maskFilter l mask)[((mask.take i).filter id).length]? = l[i]?
  | [], _, _, _ => by simp
  | _ :: _, [], i, h => by simp at h
  | x :: l, b :: mask, 0, h => by
    simp at h; subst h
    simp [maskFilter_cons_cons]
  | x :: l, b :: mask, i + 1, h => by
    have ih := maskFilter_getElem?_count l mask i (by simpa using h)
    cases b <;> simp [maskFilter_cons_cons, ih]

theorem inverseOfBool_getD (mask : List Bool) (i : Nat) (h : mask.getD i false = true) :
    (inverseOfBool mask).getD i 0 = ((mask.take i).filter id).length := by
  have hi : i < mask.length := lt_length_of_getD_true h
  simp [inverseOfBool, List.getD, hi] at h ⊢
  simp [h]

theorem maskFilter_inverse_getElem? (l : List γ) (mask : List Bool) (i : Nat)
    (h : mask.getD i false = true) :
    (maskFilter l mask)[(inverseOfBool mask).getD i 0]? = l[i]? := by
  rw [inverseOfBool_getD mask i h, maskFilter_getElem?_count l mask i h]

def AllCorners (P : Nat → Prop) (F : List Face) : Prop := ∀ f ∈ F, P f.1 ∧ P f.2.1 ∧ P f.2.2

theorem inRange_iff_allCorners {m : Mesh α β} : InRange m ↔ AllCorners (· < m.V.length) m.F := Iff.rfl

theorem AllCorners.imp {P Q : Nat → Prop} {F : List Face} (h : ∀ v, P v → Q v) (hP : AllCorners P F) :
    AllCorners Q F :=
  fun f hf => ⟨h _ (hP f hf).1, h _ (hP f hf).2.1, h _ (hP f hf).2.2⟩

theorem map_corners_mapFace {V V' : List α} {g : Nat → Nat} {F : List Face}
    (h : AllCorners (fun v => V'[g v]? = V[v]?) F) :
    (F.map (mapFace g)).map (corners V') = F.map (corners V) := by
  rw [List.map_map]
  apply List.map_congr_left
  intro f hf
  obtain ⟨h1, h2, h3⟩ := h f hf
  simp only [Function.comp, corners, mapFace, h1, h2, h3]

/-- faces in range, re-pointed through `g` into `V'`, stay in range if some observation `obs` of every corner is
    kept -/
theorem inRange_mapFace {κ : Type} (obs : α → κ) {V V' : List α} {g : Nat → Nat} {F : List Face}
    (hr : AllCorners (· < V.length) F)
    (h : AllCorners (fun v => (V'[g v]?).map obs = (V[v]?).map obs) F) :
    AllCorners (· < V'.length) (F.map (mapFace g)) := by
  have lt : ∀ v, v < V.length → (V'[g v]?).map obs = (V[v]?).map obs → g v < V'.length := by
    intro v hv e
    simpa [hv] using congrArg Option.isSome e
  intro f' hf'
  obtain ⟨f, hf, rfl⟩ := List.mem_map.mp hf'
  obtain ⟨r1, r2, r3⟩ := hr f hf
  obtain ⟨h1, h2, h3⟩ := h f hf
  exact ⟨lt _ r1 h1, lt _ r2 h2, lt _ r3 h3⟩

theorem referencedMask_length (m : Mesh α β) : (referencedMask m).length = m.V.length := by
  simp [referencedMask]

theorem allCorners_referenced (m : Mesh α β) (hr : InRange m) :
    AllCorners (fun v => v < m.V.length ∧ (referencedMask m).getD v false = true) m.F := by
  intro f hf
  obtain ⟨r1, r2, r3⟩ := hr f hf
  simp only [referencedMask, List.getD, List.getElem?_map, List.getElem?_range r1,
    List.getElem?_range r2, List.getElem?_range r3, Option.map_some, Option.getD_some, List.any_eq_true]
  exact ⟨⟨r1, f, hf, by simp⟩, ⟨r2, f, hf, by simp⟩, r3, f, hf, by simp⟩

theorem append_spec (a b : Mesh α β) (ha : InRange a) (hb : InRange b) :
    triangles (append a b) = triangles a ++ triangles b ∧ (append a b).FA = a.FA ++ b.FA ∧
    InRange (append a b) := by
  -- behind the vertices of `a`, a corner of `b` finds its vertex
  have hb' : AllCorners (fun v => (a.V ++ b.V)[v + a.V.length]? = b.V[v]?) b.F := fun _ _ => by
    simp only [List.getElem?_append_right (Nat.le_add_left _ _), Nat.add_sub_cancel, and_self]
  refine ⟨?_, rfl, List.forall_mem_append.mpr ⟨fun f hf => ?_, inRange_mapFace id hb (hb'.imp fun _ => congrArg _)⟩⟩
  · simp only [triangles, append, List.map_append]
    rw [map_corners_mapFace hb']
    congr 1
    apply List.map_congr_left
    intro f hf
    obtain ⟨r1, r2, r3⟩ := ha f hf
    simp only [corners, List.getElem?_append_left r1, List.getElem?_append_left r2, List.getElem?_append_left r3]
  · obtain ⟨r1, r2, r3⟩ := ha f hf
    rw [append, List.length_append]
    exact ⟨Nat.lt_add_right _ r1, Nat.lt_add_right _ r2, Nat.lt_add_right _ r3⟩

theorem foldl_append_spec : ∀ (ms : List (Mesh α β)) (acc : Mesh α β), InRange acc →
    (∀ m ∈ ms, InRange m) →
    triangles (ms.foldl append acc) = triangles acc ++ (ms.map triangles).flatten ∧
    (ms.foldl append acc).FA = acc.FA ++ (ms.map (·.FA)).flatten ∧ InRange (ms.foldl append acc)
  | [], acc, hacc, _ => by simp [hacc]
  | m :: ms, acc, hacc, h => by
    obtain ⟨a1, a2, a3⟩ := append_spec acc m hacc (h m (by simp))
    obtain ⟨i1, i2, i3⟩ := foldl_append_spec ms (append acc m) a3 (fun x hx => h x (List.mem_cons_of_mem _ hx))
    simp only [List.foldl_cons, List.map_cons, List.flatten_cons]
    refine ⟨?_, ?_, i3⟩
    · rw [i1, a1, List.append_assoc]
    · rw [i2, a2, List.append_assoc]

/-- indices of the referenced vertices, ascending -/
def refIdxOf (m : Mesh α β) : List Nat :=
  (List.range m.V.length).filter (fun v => (referencedMask m).getD v false)

theorem mergeVertices_eq {κ : Type} [DecidableEq κ] (le : κ → κ → Bool) (key : α → κ) (m : Mesh α β) :
    mergeVertices le key m =
      let ui := uniqueOrderedIdxInv le ((refIdxOf m).filterMap fun v => (m.V[v]?).map key)
      updateVerticesInv m (ui.1.map fun u => (refIdxOf m).getD u 0) ((List.range m.V.length).map fun v =>
        match (refIdxOf m).idxOf? v with
        | some k => ui.2.getD k 0
        | none => 0) := rfl

theorem mem_refIdxOf {m : Mesh α β} {v : Nat} :
    v ∈ refIdxOf m ↔ v < m.V.length ∧ (referencedMask m).getD v false = true := by
  simp [refIdxOf]

theorem refIdxOf_sorted (m : Mesh α β) : (refIdxOf m).Pairwise (· < ·) :=
  List.Pairwise.filter _ List.pairwise_lt_range

/-- `merge_vertices` without the mesh.  `R` lists candidate positions of `l` in ascending order; `unique_ordered` on
    their keys keeps one candidate per key, the first, and `inverse` sends every candidate to where its key is kept -/
theorem merge_select {κ : Type} [DecidableEq κ] {le : κ → κ → Bool} (hle : IsOrder le) (key : α → κ) (l : List α)
    {R : List Nat} (hR : ∀ v ∈ R, v < l.length) (hs : R.Pairwise (· < ·)) :
    let ui := uniqueOrderedIdxInv le (R.filterMap fun v => (l[v]?).map key)
    let V' := (ui.1.map fun u => R.getD u 0).filterMap (l[·]?)
    let inverse := (List.range l.length).map fun v =>
      match R.idxOf? v with
      | some k => ui.2.getD k 0
      | none => 0
    (∀ v ∈ R, (V'[inverse.getD v 0]?).map key = (l[v]?).map key) ∧
    (V'.map key).Nodup ∧
    ∀ a ∈ V', ∃ v ∈ R, l[v]? = some a ∧ ∀ w ∈ R, w < v → (l[w]?).map key ≠ some (key a) := by
  intro ui V' inverse
  let f := fun v : Nat => (l[v]?).map key
  let keys := R.filterMap f
  -- `ui` is by definition `uniqueOfGroups keys.length` of this grouping (`uniqueOrderedIdxInv_eq`)
  have hG : IsGrouping keys (orderByHead (groupsOf le keys)) :=
    (groupsOf_isGrouping hle keys).of_perm (orderByHead_perm _).symm
  have hf : ∀ v ∈ R, (f v).isSome := fun v hv => by simp [f, hR v hv]
  have hlen : keys.length = R.length := length_filterMap_of_isSome f R hf
  -- position `u` of `keys` holds the key of `l` at the member of `R` at position `u`
  have hkeys : ∀ {u v}, R[u]? = some v → keys[u]? = f v := fun h => by
    rw [getElem?_filterMap_of_isSome f R hf, h]; rfl
  have hu : ∀ u ∈ ui.1, R[u]? = some (R.getD u 0) := fun u hu => by
    have := hlen ▸ hG.unique_lt hu
    rw [List.getElem?_eq_getElem this, List.getElem_eq_getD 0]
  have hkeep : ∀ v ∈ ui.1.map fun u => R.getD u 0, v < l.length :=
    List.forall_mem_map.mpr fun u hu' => hR _ (List.mem_of_getElem? (hu u hu'))
  refine ⟨?_, ?_, ?_⟩
  · intro v hv
    obtain ⟨k, hk⟩ := Option.isSome_iff_exists.mp (List.isSome_idxOf?.mpr hv)
    obtain ⟨hkR, hkv, _⟩ := List.idxOf?_eq_some_iff.mp hk
    obtain ⟨k', u, (h1 : ui.2[k]? = some k'), (h2 : ui.1[k']? = some u), h3⟩ := hG.unique_reconstruct (hlen ▸ hkR)
    have hinv : inverse.getD v 0 = k' := by
      rw [getD_map_range _ 0 (hR v hv), hk]; exact getD_of_getElem? h1
    rw [hinv, getElem?_filterMap_of_isSome _ _ (isSome_getElem?_of_lt hkeep), List.getElem?_map, h2]
    show f (R.getD u 0) = f v
    rw [← hkeys (hu u (List.mem_of_getElem? h2)), h3, hkeys (List.getElem?_eq_some_iff.mpr ⟨hkR, hkv⟩)]
  · -- the keys of the kept entries are the `keys[u]?`, `u ∈ ui.1`
    rw [List.Nodup, List.map_filterMap, List.filterMap_map]
    refine List.Pairwise.filterMap _ ?_ (List.Pairwise.and_mem.mp hG.unique_distinct)
    rintro u u' ⟨hu1, hu2, hne⟩ b hb b' hb' rfl
    exact hne (by rw [hkeys (hu u hu1), hkeys (hu u' hu2)]; exact hb.trans hb'.symm)
  · intro a ha
    obtain ⟨w, hw, hwa⟩ := List.mem_filterMap.mp ha
    obtain ⟨u, hu', rfl⟩ := List.mem_map.mp hw
    refine ⟨_, List.mem_of_getElem? (hu u hu'), hwa, fun w hw hlt e => ?_⟩
    obtain ⟨j, hj, hjw⟩ := List.getElem_of_mem hw
    obtain ⟨huR, huv⟩ := List.getElem?_eq_some_iff.mp (hu u hu')
    -- `R` ascends, so `w` stands before position `u`
    have hju : j < u := Nat.lt_of_not_le fun hc => by
      rw [← huv, ← hjw] at hlt
      rcases Nat.lt_or_eq_of_le hc with h | rfl
      · exact Nat.lt_asymm hlt (List.pairwise_iff_getElem.mp hs u j huR hj h)
      · exact Nat.lt_irrefl _ hlt
    refine hG.unique_first hu' j hju ?_
    rw [hkeys (hu u hu'), hkeys (List.getElem?_eq_some_iff.mpr ⟨hj, hjw⟩)]
    exact e.trans (congrArg (Option.map key) hwa).symm
end TV.Reindex
