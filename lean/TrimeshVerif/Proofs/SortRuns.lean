import TrimeshVerif.Model.SortRuns
import TrimeshVerif.Proofs.ListAux
/-
What sort-and-group computes.  `IsGrouping vs gs` says that `gs` lists the classes of positions of equal values
of `vs`, each class ascending.  Sorting the (value, index) pairs by `kiLe` and cutting the sorted list into runs of
equal values gives one (`groupsOf_isGrouping`); everything the properties need of `group`, `group_rows`,
`np.unique` and `unique_ordered` is then derived from `IsGrouping` alone, so that it holds for the groups in
sorted order and in first-occurrence order alike (`IsGrouping.of_perm`).  Core Lean only.
-/
namespace TV

variable {α : Type}

/-- what the theorems need of the comparison used for sorting -/
structure IsOrder (le : α → α → Bool) : Prop where
  total : ∀ a b, le a b || le b a
  trans : ∀ a b c, le a b → le b c → le a c
  antisymm : ∀ a b, le a b → le b a → a = b

theorem IsOrder.refl {le : α → α → Bool} (h : IsOrder le) (a : α) : le a a = true := by
  simpa using h.total a a

/-- `gs` is a grouping of the indices of `vs` into the classes of equal values.  The order of the groups is free
    (`IsGrouping.of_perm`); it shows only in the order in which `uniqueOfGroups` lists its results. -/
structure IsGrouping (vs : List α) (gs : List (List Nat)) : Prop where
  perm : gs.flatten.Perm (List.range vs.length)
  same : ∀ g ∈ gs, ∀ i ∈ g, ∀ j ∈ g, vs[i]? = vs[j]?
  distinct : gs.Pairwise (fun g g' => ∀ i ∈ g, ∀ j ∈ g', vs[i]? ≠ vs[j]?)
  ne_nil : ∀ g ∈ gs, g ≠ []
  ascending : ∀ g ∈ gs, g.Pairwise (· ≤ ·)

theorem key_ne_of_sorted {le : α → α → Bool} (h : IsOrder le) {x y : KI α} {t : List (KI α)}
    (hs : (x :: y :: t).Pairwise (fun a b => le a.1 b.1)) (hxy : x.1 ≠ y.1) : ∀ b ∈ y :: t, x.1 ≠ b.1 := by
  simp only [List.pairwise_cons, List.forall_mem_cons] at hs ⊢
  -- `x ≤ y ≤ b`: if `b` has the key of `x`, so has `y`
  exact ⟨hxy, fun b hb e => hxy (h.antisymm _ _ hs.1.1 (e ▸ hs.2.1 b hb))⟩

/-! ### sorting and cutting into runs gives a grouping -/

section sort
variable [DecidableEq α] {le : α → α → Bool}

theorem kiLe_iff (h : IsOrder le) (a b : KI α) :
    kiLe le a b = true ↔ le a.1 b.1 = true ∧ (a.1 = b.1 → a.2 ≤ b.2) := by
  unfold kiLe
  split
  · next e => simp [e, h.refl]
  · next e => simp [e]

theorem kiLe_total (h : IsOrder le) (a b : KI α) : kiLe le a b || kiLe le b a := by
  unfold kiLe
  by_cases e : a.1 = b.1
  · simpa [e] using Nat.le_total a.2 b.2
  · simpa [e, Ne.symm e] using h.total a.1 b.1

theorem kiLe_trans (h : IsOrder le) (a b c : KI α) :
    kiLe le a b → kiLe le b c → kiLe le a c := by
  simp only [kiLe_iff h]
  rintro ⟨h1, i1⟩ ⟨h2, i2⟩
  refine ⟨h.trans _ _ _ h1 h2, fun e => ?_⟩
  -- `a ≤ b ≤ c` in key and `a`, `c` share a key: so does `b`
  have hab : a.1 = b.1 := h.antisymm _ _ h1 (e ▸ h2)
  exact Nat.le_trans (i1 hab) (i2 (hab ▸ e))

/-! ### runs

The cases of `fun_induction runs`: `[]`; then `x :: xs` with `runs xs` empty, headed by an empty run (which
cannot happen), headed by a run with the key of `x`, headed by a run with another key. -/

theorem runs_flatten (l : List (KI α)) : (runs l).flatten = l := by
  fun_induction runs l <;> simp_all

theorem runs_ne_nil (l : List (KI α)) : ∀ g ∈ runs l, g ≠ [] := by
  fun_induction runs l <;> simp_all

theorem mem_of_mem_runs {l g : List (KI α)} (hg : g ∈ runs l) {a : KI α} (ha : a ∈ g) : a ∈ l := by
  rw [← runs_flatten l]; exact List.mem_flatten.mpr ⟨g, hg, ha⟩

theorem runs_key_const (l : List (KI α)) : ∀ g ∈ runs l, ∃ k, ∀ a ∈ g, a.1 = k := by
  fun_induction runs l with
  | case1 => simp
  | case2 x xs _ _ => exact fun g hg => ⟨x.1, by simp_all⟩
  | case3 x xs gs he _ => exact absurd rfl (runs_ne_nil xs [] (by rw [he]; simp))
  | case4 x xs y g gs he hxy ih =>
    rw [he] at ih
    simp only [List.forall_mem_cons] at ih ⊢
    obtain ⟨⟨k, hy, hg⟩, hgs⟩ := ih
    exact ⟨⟨k, hxy.trans hy, hy, hg⟩, hgs⟩
  | case5 x xs y g gs he _ ih =>
    rw [he] at ih
    simp only [List.forall_mem_cons] at ih ⊢
    exact ⟨⟨x.1, rfl, by simp⟩, ih⟩

theorem runs_keys_distinct (h : IsOrder le) (l : List (KI α))
    (hs : l.Pairwise (fun a b => le a.1 b.1)) :
    (runs l).Pairwise (fun g g' => ∀ a ∈ g, ∀ b ∈ g', a.1 ≠ b.1) := by
  fun_induction runs l with
  | case1 => simp
  | case2 x xs _ _ => simp
  | case3 x xs gs he _ => exact absurd rfl (runs_ne_nil xs [] (by rw [he]; simp))
  | case4 x xs y g gs he hxy ih =>
    have ih' := he ▸ ih hs.of_cons
    simp only [List.pairwise_cons, List.forall_mem_cons] at ih' ⊢
    exact ⟨fun g' hg' => ⟨hxy ▸ (ih'.1 g' hg').1, ih'.1 g' hg'⟩, ih'.2⟩
  | case5 x xs y g gs he hxy ih =>
    have hx' : xs = y :: (g ++ gs.flatten) := by rw [← runs_flatten xs, he]; rfl
    refine List.pairwise_cons.mpr ⟨fun g' hg' a ha b hb => ?_, he ▸ ih hs.of_cons⟩
    rw [List.mem_singleton.mp ha]
    exact key_ne_of_sorted h (hx' ▸ hs) hxy b (hx' ▸ mem_of_mem_runs (he ▸ hg') hb)

theorem sortKI_perm (le : α → α → Bool) (vs : List α) : (sortKI le vs).Perm vs.zipIdx :=
  List.mergeSort_perm _ _

theorem sortKI_sorted (h : IsOrder le) (vs : List α) :
    (sortKI le vs).Pairwise (fun a b => kiLe le a b) :=
  List.pairwise_mergeSort (le := kiLe le) (fun a b c => kiLe_trans h a b c) (kiLe_total h) _

theorem mem_sortKI {vs : List α} {a : KI α} :
    a ∈ sortKI le vs ↔ vs[a.2]? = some a.1 := by
  unfold sortKI
  rw [List.mem_mergeSort]
  obtain ⟨v, i⟩ := a
  simp [List.mem_zipIdx_iff_getElem?]

theorem groupsOf_isGrouping (h : IsOrder le) (vs : List α) :
    IsGrouping vs (groupsOf le vs) := by
  -- a member of a run is a pair (value, index) of `vs`
  have hmem : ∀ r ∈ runs (sortKI le vs), ∀ a ∈ r, vs[a.2]? = some a.1 :=
    fun r hr a ha => mem_sortKI.mp (mem_of_mem_runs hr ha)
  have hsorted := sortKI_sorted h vs
  unfold groupsOf
  refine ⟨?_, ?_, ?_, ?_, ?_⟩
  · rw [← List.map_flatten, runs_flatten, List.range_eq_range', ← List.zipIdx_map_snd]
    exact (sortKI_perm le vs).map _
  · simp only [List.forall_mem_map]
    intro r hr a ha b hb
    obtain ⟨k, hk⟩ := runs_key_const _ r hr
    rw [hmem r hr a ha, hmem r hr b hb, hk a ha, hk b hb]
  · rw [List.pairwise_map]
    refine (runs_keys_distinct h _ (hsorted.imp fun hab => ((kiLe_iff h _ _).mp hab).1)).imp_of_mem ?_
    intro r r' hr hr' hrr'
    simp only [List.forall_mem_map]
    intro a ha b hb
    rw [hmem r hr a ha, hmem r' hr' b hb]
    exact fun e => hrr' a ha b hb (Option.some.inj e)
  · simp only [List.forall_mem_map]
    intro r hr; simpa using runs_ne_nil _ r hr
  · -- a run is a sublist of the `kiLe`-sorted list and its keys are equal, so its indices ascend
    simp only [List.forall_mem_map, List.pairwise_map]
    intro r hr
    obtain ⟨k, hk⟩ := runs_key_const _ r hr
    refine (hsorted.sublist (runs_flatten (sortKI le vs) ▸ List.sublist_flatten_of_mem hr)).imp_of_mem ?_
    exact fun ha hb hab => ((kiLe_iff h _ _).mp hab).2 ((hk _ ha).trans (hk _ hb).symm)

end sort

/-! ### consequences of `IsGrouping` -/

variable {vs : List α} {gs : List (List Nat)}

theorem IsGrouping.of_perm {gs' : List (List Nat)} (h : IsGrouping vs gs)
    (p : gs.Perm gs') : IsGrouping vs gs' where
  perm := (p.symm.flatten).trans h.perm
  same := fun g hg => h.same g (p.mem_iff.mpr hg)
  distinct := p.pairwise h.distinct (fun hxy i hi j hj => (hxy j hj i hi).symm)
  ne_nil := fun g hg => h.ne_nil g (p.mem_iff.mpr hg)
  ascending := fun g hg => h.ascending g (p.mem_iff.mpr hg)

theorem IsGrouping.mem_lt (h : IsGrouping vs gs)
    {g : List Nat} (hg : g ∈ gs) {i : Nat} (hi : i ∈ g) : i < vs.length :=
  List.mem_range.mp (h.perm.mem_iff.mp (List.mem_flatten.mpr ⟨g, hg, hi⟩))

theorem IsGrouping.group_unique (h : IsGrouping vs gs)
    {g g' : List Nat} (hg : g ∈ gs) (hg' : g' ∈ gs) {i j : Nat} (hi : i ∈ g) (hj : j ∈ g')
    (e : vs[i]? = vs[j]?) : g = g' := by
  -- `R`, "equal or without a common value", is reflexive and by `distinct` holds between two groups in list
  -- order and in the opposite order, so it holds between any two members of `gs`
  let R : List Nat → List Nat → Prop := fun a b => a = b ∨ ∀ i ∈ a, ∀ j ∈ b, vs[i]? ≠ vs[j]?
  have h3 : gs.Pairwise (flip R) :=
    h.distinct.imp (fun {a b} hd => Or.inr (fun i hi j hj => (hd j hj i hi).symm))
  exact (List.Pairwise.forall_of_forall_of_flip (R := R) (fun x _ => Or.inl rfl) (h.distinct.imp Or.inr) h3 hg hg'
    ).resolve_right fun e' => e' i hi j hj e

theorem IsGrouping.count_one (h : IsGrouping vs gs)
    {i : Nat} (hi : i < vs.length) : gs.flatten.count i = 1 := by
  rw [h.perm.count_eq, List.Nodup.count List.nodup_range]
  simp [hi]

theorem IsGrouping.nodup (h : IsGrouping vs gs)
    {g : List Nat} (hg : g ∈ gs) : g.Nodup := by
  have h1 : gs.flatten.Nodup := h.perm.symm.nodup List.nodup_range
  exact h1.sublist (List.sublist_flatten_of_mem hg)

theorem IsGrouping.of_map {β : Type} {f : α → β}
    (finj : ∀ a ∈ vs, ∀ b ∈ vs, f a = f b → a = b) (h : IsGrouping (vs.map f) gs) :
    IsGrouping vs gs := by
  have key : ∀ i j : Nat, (vs.map f)[i]? = (vs.map f)[j]? ↔ vs[i]? = vs[j]? := by
    intro i j
    refine ⟨fun e => ?_, fun e => by rw [List.getElem?_map, List.getElem?_map, e]⟩
    rw [List.getElem?_map, List.getElem?_map] at e
    cases hi : vs[i]? <;> cases hj : vs[j]? <;>
      simp only [hi, hj, Option.map_none, Option.map_some, reduceCtorEq, Option.some.injEq] at e
    · rfl
    · rw [finj _ (List.mem_of_getElem? hi) _ (List.mem_of_getElem? hj) e]
  refine ⟨by simpa using h.perm, ?_, ?_, h.ne_nil, h.ascending⟩
  · intro g hg i hi j hj; exact (key i j).mp (h.same g hg i hi j hj)
  · exact h.distinct.imp (fun hd i hi j hj e => hd i hi j hj ((key i j).mpr e))

theorem IsGrouping.pair_shape (h : IsGrouping vs gs)
    {g : List Nat} (hg : g ∈ gs) (hl : g.length = 2) : ∃ i j, g = [i, j] ∧ i < j := by
  match g, hl with
  | [i, j], _ =>
    have h1 := h.nodup hg
    have h2 := h.ascending _ hg
    simp at h1 h2
    exact ⟨i, j, rfl, by omega⟩

/-- results of the `np.unique(return_index, return_inverse)` model over any grouping: the first member of every
    group, and for every position the number of its group -/
def uniqueOfGroups (n : Nat) (gs : List (List Nat)) : List Nat × List Nat :=
  (gs.map (fun g => g.headD 0), (List.range n).map (fun i => gs.findIdx (fun g => g.contains i)))

theorem uniqueIdxInv_eq [DecidableEq α] (le : α → α → Bool) (vs : List α) :
    uniqueIdxInv le vs = uniqueOfGroups vs.length (groupsOf le vs) := rfl

theorem uniqueOrderedIdxInv_eq [DecidableEq α] (le : α → α → Bool) (vs : List α) :
    uniqueOrderedIdxInv le vs = uniqueOfGroups vs.length (orderByHead (groupsOf le vs)) := rfl

theorem uniqueIdxInv_ite_eq [DecidableEq α] (le : α → α → Bool) (vs : List α) (keepOrder : Bool) :
    (if keepOrder then uniqueOrderedIdxInv le vs else uniqueIdxInv le vs) =
      uniqueOfGroups vs.length (if keepOrder then orderByHead (groupsOf le vs) else groupsOf le vs) := by
  cases keepOrder <;> rfl

theorem orderByHead_perm (gs : List (List Nat)) : (orderByHead gs).Perm gs := List.mergeSort_perm _ _

theorem IsGrouping.ite_orderByHead (h : IsGrouping vs gs) (keepOrder : Bool) :
    IsGrouping vs (if keepOrder then orderByHead gs else gs) := by
  cases keepOrder
  · exact h
  · exact h.of_perm (orderByHead_perm gs).symm

theorem orderByHead_sorted (gs : List (List Nat)) :
    ((orderByHead gs).map (fun g => g.headD 0)).Pairwise (· ≤ ·) := by
  rw [List.pairwise_map]
  have := List.pairwise_mergeSort (le := fun a b : List Nat => decide (a.headD 0 ≤ b.headD 0))
    (by intro a b c; simp; omega) (by intro a b; simp; omega) gs
  exact this.imp (by intro a b h; simpa using h)

theorem IsGrouping.unique_distinct (h : IsGrouping vs gs) :
    (uniqueOfGroups vs.length gs).1.Pairwise (fun u u' => vs[u]? ≠ vs[u']?) := by
  simp only [uniqueOfGroups]
  rw [List.pairwise_map]
  refine List.Pairwise.imp_of_mem ?_ h.distinct
  intro g g' hg hg' hd
  exact hd _ (headD_mem (h.ne_nil g hg)) _ (headD_mem (h.ne_nil g' hg'))

theorem IsGrouping.unique_lt (h : IsGrouping vs gs) {u : Nat} (hu : u ∈ (uniqueOfGroups vs.length gs).1) :
    u < vs.length := by
  simp only [uniqueOfGroups] at hu
  obtain ⟨g, hg, rfl⟩ := List.mem_map.mp hu
  exact h.mem_lt hg (headD_mem (h.ne_nil g hg))

/-! The lemmas from here on rest on `IsGrouping.covers`, which takes a `DecidableEq α` instance. -/

variable [DecidableEq α]

theorem IsGrouping.covers {vs : List α} {gs : List (List Nat)} (h : IsGrouping vs gs)
    {i : Nat} (hi : i < vs.length) : ∃ g ∈ gs, i ∈ g :=
  List.mem_flatten.mp (h.perm.mem_iff.mpr (List.mem_range.mpr hi))

theorem IsGrouping.mem_iff (h : IsGrouping vs gs)
    {g : List Nat} (hg : g ∈ gs) {i : Nat} (hi : i ∈ g) (j : Nat) :
    j ∈ g ↔ j < vs.length ∧ vs[j]? = vs[i]? := by
  constructor
  · intro hj; exact ⟨h.mem_lt hg hj, h.same g hg j hj i hi⟩
  · rintro ⟨hj, e⟩
    obtain ⟨g', hg', hjg'⟩ := h.covers hj
    have := h.group_unique hg' hg hjg' hi e
    subst this; exact hjg'

/-- reconstruction: `values[unique[inverse[i]]] = values[i]` -/
theorem IsGrouping.unique_reconstruct (h : IsGrouping vs gs)
    {i : Nat} (hi : i < vs.length) :
    ∃ k u, (uniqueOfGroups vs.length gs).2[i]? = some k ∧ (uniqueOfGroups vs.length gs).1[k]? = some u
      ∧ vs[u]? = vs[i]? := by
  obtain ⟨g, hg, hig⟩ := h.covers hi
  have hlt := List.findIdx_lt_length_of_exists (p := fun g => g.contains i) ⟨g, hg, by simpa using hig⟩
  have hget := List.findIdx_getElem (w := hlt)
  -- `k` is the position of the group that holds `i`
  generalize hk : gs.findIdx (fun g => g.contains i) = k at hlt hget
  have hmem : gs[k] ∈ gs := List.getElem_mem hlt
  exact ⟨k, gs[k].headD 0, by simp [uniqueOfGroups, hi, ← hk], by simp [uniqueOfGroups, hlt],
    h.same _ hmem _ (headD_mem (h.ne_nil _ hmem)) _ (by simpa using hget)⟩

theorem IsGrouping.unique_first (h : IsGrouping vs gs)
    {u : Nat} (hu : u ∈ (uniqueOfGroups vs.length gs).1) : ∀ j, j < u → vs[j]? ≠ vs[u]? := by
  obtain ⟨g, hg, rfl⟩ := List.mem_map.mp hu
  intro j hj e
  have hhead := headD_mem (d := 0) (h.ne_nil g hg)
  have hjg := (h.mem_iff hg hhead j).mpr ⟨Nat.lt_trans hj (h.mem_lt hg hhead), e⟩
  exact Nat.not_le_of_lt hj (headD_le_of_mem_ascending (h.ascending g hg) hjg)

/-- `np.unique(values, return_inverse=True)` at the level of values, for any grouping: the values at the selected
    indices are the values of `vs`, each once, and the inverse leads from a position to its value -/
theorem IsGrouping.unique_values (h : IsGrouping vs gs) (d : α) :
    ((uniqueOfGroups vs.length gs).1.map (vs.getD · d)).Nodup ∧
    (∀ x, x ∈ (uniqueOfGroups vs.length gs).1.map (vs.getD · d) ↔ x ∈ vs) ∧
    ∀ i, i < vs.length → ∃ k, (uniqueOfGroups vs.length gs).2[i]? = some k ∧
      ((uniqueOfGroups vs.length gs).1.map (vs.getD · d))[k]? = vs[i]? := by
  -- a selected index is in range, so the default plays no part
  have key : ∀ u ∈ (uniqueOfGroups vs.length gs).1, vs[u]? = some (vs.getD u d) :=
    fun u hu => getElem?_eq_some_getD (h.unique_lt hu) d
  refine ⟨?_, fun x => ⟨?_, fun hx => ?_⟩, fun i hi => ?_⟩
  · rw [List.Nodup, List.pairwise_map]
    exact h.unique_distinct.imp_of_mem fun hu hu' hne e => hne (by rw [key _ hu, key _ hu', e])
  · rw [List.mem_map]
    rintro ⟨u, hu, rfl⟩
    exact List.mem_of_getElem? (key u hu)
  · obtain ⟨i, hi⟩ := List.mem_iff_getElem?.mp hx
    obtain ⟨k, u, _, h2, h3⟩ := h.unique_reconstruct (List.getElem?_eq_some_iff.mp hi).1
    exact List.mem_map.mpr ⟨u, List.mem_of_getElem? h2, getD_of_getElem? (h3.trans hi)⟩
  · obtain ⟨k, u, h1, h2, h3⟩ := h.unique_reconstruct hi
    exact ⟨k, h1, by rw [List.getElem?_map, h2, Option.map_some, ← key u (List.mem_of_getElem? h2), h3]⟩

theorem IsGrouping.mem_unique_iff (h : IsGrouping vs gs) {i : Nat} (hi : i < vs.length) :
    i ∈ (uniqueOfGroups vs.length gs).1 ↔ ∀ j, j < i → vs[j]? ≠ vs[i]? := by
  constructor
  · intro hu; exact h.unique_first hu
  · intro hfirst
    obtain ⟨g, hg, hig⟩ := h.covers hi
    -- the head of the group of `i` has the value of `i` and is not above `i`, so it is `i`
    have hsame := h.same g hg _ (headD_mem (d := 0) (h.ne_nil g hg)) _ hig
    exact List.mem_map.mpr ⟨g, hg, (Nat.lt_or_eq_of_le (headD_le_of_mem_ascending (h.ascending g hg) hig)).resolve_left
      fun hlt => hfirst _ hlt hsame⟩

theorem IsGrouping.same_group_iff (h : IsGrouping vs gs)
    {i j : Nat} (hi : i < vs.length) (hj : j < vs.length) :
    (∃ g ∈ gs, i ∈ g ∧ j ∈ g) ↔ vs[i]? = vs[j]? := by
  constructor
  · rintro ⟨g, hg, hig, hjg⟩; exact h.same g hg i hig j hjg
  · intro e
    obtain ⟨g, hg, hig⟩ := h.covers hi
    exact ⟨g, hg, hig, (h.mem_iff hg hig j).mpr ⟨hj, e.symm⟩⟩

theorem IsGrouping.length_eq_count [BEq α] [LawfulBEq α] (h : IsGrouping vs gs)
    {g : List Nat} (hg : g ∈ gs) {i : Nat} (hi : i ∈ g) {x : α} (hx : vs[i]? = some x) :
    g.length = vs.count x := by
  rw [← length_filter_range_eq_count]
  refine ((List.perm_ext_iff_of_nodup (h.nodup hg) (List.nodup_range.filter _)).mpr ?_).length_eq
  intro j
  rw [h.mem_iff hg hi j, hx]
  simp

/-- the groups of size two: the pairs `i < j` of positions of a value that occurs exactly twice -/
theorem IsGrouping.mem_pairs_iff [BEq α] [LawfulBEq α] (h : IsGrouping vs gs)
    (d : α) (g : List Nat) :
    g ∈ gs.filter (fun g => g.length == 2) ↔
      ∃ i j, g = [i, j] ∧ i < j ∧ j < vs.length ∧ vs[i]? = vs[j]? ∧ vs.count (vs.getD i d) = 2 := by
  rw [List.mem_filter, beq_iff_eq]
  constructor
  · rintro ⟨hg, hl⟩
    obtain ⟨i, j, rfl, hij⟩ := h.pair_shape hg hl
    have hi := h.mem_lt hg (i := i) (by simp)
    exact ⟨i, j, rfl, hij, h.mem_lt hg (by simp), h.same _ hg i (by simp) j (by simp),
      (h.length_eq_count hg (by simp) (getElem?_eq_some_getD hi d)).symm.trans hl⟩
  · rintro ⟨i, j, rfl, hij, hj, e, hc⟩
    have hi := Nat.lt_trans hij hj
    obtain ⟨g, hg, hig⟩ := h.covers hi
    have hjg : j ∈ g := (h.mem_iff hg hig j).mpr ⟨hj, e.symm⟩
    obtain ⟨a, b, rfl, hab⟩ := h.pair_shape hg ((h.length_eq_count hg hig (getElem?_eq_some_getD hi d)).trans hc)
    simp only [List.mem_cons, List.not_mem_nil, or_false] at hig hjg
    obtain ⟨rfl, rfl⟩ : a = i ∧ b = j := by omega
    exact ⟨hg, rfl⟩

theorem pairs_cover_iff (gs : List (List Nat)) (hne : ∀ g ∈ gs, g ≠ []) :
    (gs.filter (fun g => g.length == 2)).length * 2 = gs.flatten.length ↔ ∀ g ∈ gs, g.length = 2 := by
  -- the groups of other sizes, none of them empty, must have no members in total
  have hsplit := (List.filter_append_perm (fun g => g.length == 2) gs).flatten.length_eq
  rw [List.flatten_append, List.length_append, ← List.flatMap_id (L := gs.filter _),
    length_flatMap_const (k := 2) id _ (fun g hg => by simpa using (List.mem_filter.mp hg).2)] at hsplit
  rw [← hsplit, Nat.mul_comm, Nat.left_eq_add, List.length_eq_zero_iff, List.flatten_eq_nil_iff]
  simp only [List.mem_filter, Bool.not_eq_true', beq_eq_false_iff_ne, and_imp]
  exact ⟨fun h g hg => Decidable.byContradiction fun hc => hne g hg (h g hg hc), fun h g hg hc => absurd (h g hg) hc⟩

end TV
