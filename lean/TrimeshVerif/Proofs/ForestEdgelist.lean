import TrimeshVerif.Proofs.Forest
import Mathlib.Data.List.Nodup
/-!
C09: the edge list exported by `to_edgelist`, loaded into a fresh graph by `from_edgelist`, rebuilds a graph that
answers every query as the original does.
-/
namespace TV.Forest

variable {N G : Type} [DecidableEq N]

theorem wfs_children_nodup {f : Forest N G} (h : WFs f) : (f.edges.map (·.1.2)).Nodup := by
  -- the keys `(parent, child)` are distinct, and the child determines the parent
  rw [show f.edges.map (·.1.2) = (f.edges.map (·.1)).map (·.2) by simp]
  refine h.edges_nodup.map_on fun k₁ h₁ k₂ h₂ hv => ?_
  obtain ⟨⟨⟨u₁, v⟩, g₁⟩, he₁, rfl⟩ := List.mem_map.mp h₁
  obtain ⟨⟨⟨u₂, _⟩, g₂⟩, he₂, rfl⟩ := List.mem_map.mp h₂
  cases hv
  cases (parentOf_of_edge h he₁).symm.trans (parentOf_of_edge h he₂)
  rfl

theorem foldl_addEdge_of_fresh (es : List (N × N × G)) (F : Forest N G) (hF : WFs F)
    (hn : (es.map (·.2.1) ++ F.edges.map (·.1.2)).Nodup) :
    (es.foldl (fun f e => addEdge f e.1 e.2.1 e.2.2) F).parents
        = es.reverse.map (fun e => (e.2.1, e.1)) ++ F.parents ∧
    (es.foldl (fun f e => addEdge f e.1 e.2.1 e.2.2) F).edges
        = es.reverse.map (fun e => ((e.1, e.2.1), e.2.2)) ++ F.edges := by
  induction es generalizing F with
  | nil => simp
  | cons e t ih =>
    obtain ⟨u, v, g⟩ := e
    rw [List.map_cons, List.cons_append] at hn
    obtain ⟨hp, he⟩ := addEdge_of_fresh hF u v g fun hv => (List.nodup_cons.mp hn).1 (List.mem_append_right _ hv)
    have := ih (addEdge F u v g) (wfs_addEdge hF u v g)
      (by rw [he, List.map_cons]; exact List.nodup_middle.mpr hn)
    rw [hp, he] at this
    simpa using this

theorem fromEdgelist_eq {f : Forest N G} (h : WFs f) :
    (fromEdgelist (toEdgelist f)).edges = f.edges.reverse ∧
    (fromEdgelist (toEdgelist f)).parents = f.edges.reverse.map (fun e => (e.1.2, e.1.1)) := by
  have := foldl_addEdge_of_fresh (toEdgelist f) (Forest.empty : Forest N G) wfs_empty
    (by simpa [toEdgelist, Forest.empty, List.map_map, Function.comp_def] using wfs_children_nodup h)
  unfold fromEdgelist
  rw [this.1, this.2]
  simp [toEdgelist, Forest.empty, List.map_reverse, List.map_map, Function.comp_def]

/-- whatever the list, `from_edgelist` builds a well-formed forest: it only calls `add_edge` -/
theorem wfs_fromEdgelist (l : List (N × N × G)) : WFs (fromEdgelist l) := by
  suffices ∀ F : Forest N G, WFs F → WFs (l.foldl (fun f e => addEdge f e.1 e.2.1 e.2.2) F) from
    this _ wfs_empty
  induction l with
  | nil => exact fun _ h => h
  | cons e t ih => exact fun F h => ih _ (wfs_addEdge h ..)

theorem mem_fromEdgelist_toEdgelist {f : Forest N G} (h : WFs f) :
    (∀ e, e ∈ (fromEdgelist (toEdgelist f)).edges ↔ e ∈ f.edges) ∧
    (∀ p, p ∈ (fromEdgelist (toEdgelist f)).parents ↔ p ∈ f.parents) := by
  obtain ⟨he, hp⟩ := fromEdgelist_eq h
  refine ⟨fun e => by rw [he, List.mem_reverse], fun ⟨v, u⟩ => ?_⟩
  rw [hp, h.consistent u v]
  simp

section group
variable [Mul G] [One G] [Inv G]

theorem pathProduct_congr {f f' : Forest N G} (he : ∀ u v, edgeOf f' u v = edgeOf f u v) :
    ∀ l, pathProduct f' l = pathProduct f l := by
  intro l
  induction l with
  | nil => rfl
  | cons a t ih =>
    cases t with
    | nil => rfl
    | cons b t' =>
      simp only [pathProduct, stepMatrix, he] at ih ⊢
      rw [ih]

/-- two well-formed acyclic forests with the same entries, in whatever order, resolve every pair of frames
    alike -/
theorem getRaw_congr {f f' : Forest N G} (h : WFs f) (hac : Acyclic f) (h' : WFs f')
    (he : ∀ e, e ∈ f'.edges ↔ e ∈ f.edges) (hp : ∀ p, p ∈ f'.parents ↔ p ∈ f.parents) (a b : N) :
    getRaw f' a b = getRaw f a b := by
  have he' : ∀ u v, edgeOf f' u v = edgeOf f u v := fun u v =>
    lookup_congr h.edges_nodup h'.edges_nodup he (u, v)
  have hac' : Acyclic f' := hac.imp fun _ hr p hm => hr p ((hp p).mp hm)
  unfold getRaw
  rw [he', pathTo_congr hac hac' (lookup_congr h.parents_nodup h'.parents_nodup hp),
    funext (pathProduct_congr he')]

end group
end TV.Forest
