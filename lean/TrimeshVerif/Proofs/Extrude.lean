import TrimeshVerif.Model.Extrude
import TrimeshVerif.Proofs.RevolveGrid
/-
Extrusion of any consistently oriented triangulation is closed and consistently wound (C15): if no directed
edge of the cap occurs twice and no face repeats a vertex, the directed edges of the extruded surface are closed
under reversal (as a multiset).  The cap is closed up to its boundary edges (`ClosedUpTo` of
`Proofs/RevolveGrid.lean`, `nodup_closedUpTo`), and the prism over any face list that is closed up to some edges, with
walls over those edges, is closed (`prism_closed`).
-/
namespace TV.Extrude
open List TV.RevolveGrid

def Sym (l : List (Nat × Nat)) : Prop := l ~ l.map Prod.swap

theorem Sym.append {a b : List (Nat × Nat)} (ha : Sym a) (hb : Sym b) : Sym (a ++ b) := by
  unfold Sym at *
  rw [map_append]
  exact ha.append hb

def up (e : Nat × Nat) : Nat × Nat := (lift 1 e.1, lift 1 e.2)
def dn (e : Nat × Nat) : Nat × Nat := (lift 0 e.1, lift 0 e.2)
def vert (v : Nat) : Nat × Nat := (lift 0 v, lift 1 v)

theorem up_swap (e : Nat × Nat) : up e.swap = (up e).swap := rfl
theorem dn_swap (e : Nat × Nat) : dn e.swap = (dn e).swap := rfl

theorem sortE_eq_iff (d e : Nat × Nat) : sortE d = sortE e ↔ d = e ∨ d = e.swap := by
  obtain ⟨a, b⟩ := d; obtain ⟨x, y⟩ := e
  unfold sortE
  simp only [Prod.mk.injEq, Prod.swap]
  omega

/-- an undirected edge is counted once for each of its two directions -/
theorem count_sortE (e : Nat × Nat) (hne : e ≠ e.swap) : ∀ l : List (Nat × Nat),
    (l.map sortE).count (sortE e) = l.count e + l.count e.swap
  | [] => rfl
  | d :: t => by
    -- `d` is counted on the left iff it is `e` or its reverse, and it cannot be both
    simp only [map_cons, count_cons, count_sortE e hne t, beq_iff_eq, sortE_eq_iff]
    by_cases h1 : d = e
    · simp only [h1, true_or, if_true, if_neg hne]
      omega
    · by_cases h2 : d = e.swap
      · simp only [h2, or_true, if_true, if_neg (Ne.symm hne)]
        omega
      · simp only [h1, h2, or_self, if_false]
        omega

/-- under the hypotheses, the code's boundary test (undirected edge occurs once) says: the reversed edge is absent -/
theorem boundary_eq (cap : List Face) (hN : (dirEdges cap).Nodup) (hL : ∀ e ∈ dirEdges cap, e.1 ≠ e.2) :
    boundary cap = (dirEdges cap).filter (fun e => !(dirEdges cap).contains e.swap) := by
  unfold boundary
  apply filter_congr
  intro e he
  have hne : e ≠ e.swap := fun h => hL e he (congrArg Prod.fst h)
  rw [count_sortE e hne, count_eq_one_of_mem hN he]
  by_cases hs : e.swap ∈ dirEdges cap
  · rw [count_eq_one_of_mem hN hs]; simp [hs]
  · rw [count_eq_zero_of_not_mem hs]; simp [hs]

/-- a face list in which no directed edge occurs twice is closed up to the edges whose reverse is absent: without
    repetitions those are what is left when the reverses are taken away -/
theorem nodup_closedUpTo (cap : List Face) (hN : (dirEdges cap).Nodup) :
    ClosedUpTo (em cap) (((dirEdges cap).filter (fun e => !(dirEdges cap).contains e.swap) : List (Nat × Nat)) : E) := by
  have h := ClosedUpTo.sub_swap ((dirEdges cap : List (Nat × Nat)) : E)
  rw [Multiset.map_coe, Multiset.coe_sub] at h
  -- the `diff` of `Multiset.coe_sub` compares with the `BEq` of `DecidableEq`
  refine h.congr_right (congrArg _ ((@Nodup.sdiff_eq_filter _ instBEqOfDecidableEq _ _ _ hN).trans
    (filter_congr fun e _ => ?_)))
  simp only [mem_map_of_involutive Prod.swap_swap, contains_eq_mem, decide_not]

/-- the two triangles over the boundary edge `e`: their common diagonal cancels; left open are `e` at the bottom,
    its reverse at the top and the two verticals -/
theorem wall_closedUpTo (e : Nat × Nat) :
    ClosedUpTo (em (wall e))
      (Multiset.map Prod.swap {up e} + {dn e} + {vert e.2} + Multiset.map Prod.swap {vert e.1}) := by
  unfold ClosedUpTo
  rw [wall, em_cons, em_single, em_single]
  simp only [up, dn, vert, Multiset.map_add, Multiset.map_singleton, Prod.swap_prod_mk]
  abel

/-- all walls: the verticals over the end points of the boundary edges upwards, over their start points downwards -/
theorem walls_closedUpTo : ∀ B : List (Nat × Nat),
    ClosedUpTo (em (B.flatMap wall))
      (Multiset.map Prod.swap (Multiset.map up (B : E)) + Multiset.map dn (B : E)
        + Multiset.map vert (Multiset.map Prod.snd (B : E))
        + Multiset.map Prod.swap (Multiset.map vert (Multiset.map Prod.fst (B : E))))
  | [] => by simpa [em_nil] using ClosedUpTo.refl (0 : E)
  | e :: t => by
    rw [flatMap_cons, em_append]
    refine ((wall_closedUpTo e).add (walls_closedUpTo t)).congr_right ?_
    simp only [← Multiset.cons_coe, ← Multiset.singleton_add, Multiset.map_add, Multiset.map_singleton]
    abel

/-- **the prism over any face list**: if `cap` is closed up to the edges `B`, its reversed copy at the bottom, its copy
    at the top and the walls over `B` make a closed surface.  The copies are closed up to the copies of `B`; the walls
    close what they leave open, their verticals cancelling because `B` is balanced. -/
theorem prism_closed (cap : List Face) (B : List (Nat × Nat)) (h : ClosedUpTo (em cap) (B : E)) :
    ClosedUpTo (em ((cap.map (mapFace (lift 0))).map flipFace ++ cap.map (mapFace (lift 1)) ++ B.flatMap wall)) 0 := by
  have hw := walls_closedUpTo B
  rw [h.balanced] at hw
  rw [em_append, em_append, em_reverse, em_map, em_map]
  refine (((h.map (lift 0)).swap.add (h.map (lift 1))).add hw).closed ?_
  rw [show Prod.map (lift 0) (lift 0) = dn from rfl, show Prod.map (lift 1) (lift 1) = up from rfl]
  simp only [Multiset.map_add, map_swap_swap]
  abel

end TV.Extrude
