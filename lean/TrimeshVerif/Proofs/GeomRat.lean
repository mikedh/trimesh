/-
Bridges: the core-`Rat` definitions of Model/GeomRat.lean are the generic-field definitions of
Proofs/{Mat3,Affine,Scene,Remesh}.lean at K = ℚ.
-/
import TrimeshVerif.Model.GeomRat
import TrimeshVerif.Proofs.Scene
import TrimeshVerif.Proofs.Remesh
import TrimeshVerif.Proofs.ToSize
import Mathlib.Algebra.Order.Field.Rat
namespace TV.GeomRat
open TV.Mat3 TV.Affine

def toM3 (a : M3R) : M3 ℚ := ⟨a.m00, a.m01, a.m02, a.m10, a.m11, a.m12, a.m20, a.m21, a.m22⟩
def toInst (i : InstanceR) : TV.Scene.Instance ℚ := ⟨toM3 i.L, i.t, i.pts⟩

/-! ### the definitions coincide (definitional unfolding at ℚ); the other pairs are in `C04_rat_model_is_generic`,
    `C10_rat_model_is_generic`, `C18_rat_model_is_generic` -/
theorem applyR_eq (L : M3R) (p : V) : applyR L p = (toM3 L).apply p := by
  rfl
theorem mulR_eq (A B : M3R) : toM3 (mulR A B) = toM3 A * toM3 B := by
  rfl
theorem areaVecR_eq (t : Tri) : areaVecR t = TV.Remesh.areaVec t := by
  rfl
/-- the size-bounded subdivision the driver runs is the one of `C18_to_size`: the two recursions unfold to the same
    term once the recursive calls agree -/
theorem toSizeR_eq (m2 : Rat) : ∀ (fuel : Nat) (t : Tri), toSizeR m2 fuel t = TV.ToSize.toSize m2 fuel t
  | 0, _ => rfl
  | fuel + 1, t => by
    unfold toSizeR
    rw [funext (toSizeR_eq m2 fuel)]
    rfl

end TV.GeomRat
