import TrimeshVerif.Model.Tracked
/-!
Lemmas for C02 (`TrackedArray` hashing): a step keeps `Fresh` (every tracked object would answer its next hash
correctly) when its write is a `SafeWrite`.  A step only marks objects dirty, appends an object or a buffer, or stores a
memo of the current bytes, and a safe write changes the bytes of no object that holds a clean memo.  `copy` needs in
addition that no object points past the last buffer (`C02.WFHeap`), which every step keeps.
-/
namespace TV.Tracked

/-- every array object lives on an existing buffer.  The model builds no heap, it is given one: this is a hypothesis on
    the heap a program starts from, kept by every step (`step_wfHeap`); the example at the end of this file shows what
    `copy` does to a heap with a dangling object -/
def _root_.TV.C02.WFHeap (h : Heap) : Prop := ∀ o ∈ h.objs, o.buf < h.bufs.length

/-! ### decidability (for the concrete witnesses) -/

instance (h : Heap) (o : Obj) : Decidable (FreshObj h o) := by unfold FreshObj; exact inferInstance
instance (h : Heap) : Decidable (Fresh h) := by unfold Fresh; exact inferInstance

theorem forall_mem_modify {α} {P : α → Prop} {l : List α} {i : Nat} {f : α → α}
    (hi : ∀ y, l[i]? = some y → P (f y)) (hne : ∀ j y, j ≠ i → l[j]? = some y → P y) :
    ∀ x ∈ l.modify i f, P x := by
  intro x hx
  obtain ⟨j, hj⟩ := List.mem_iff_getElem?.1 hx
  rw [List.getElem?_modify] at hj
  obtain ⟨y, hy, rfl⟩ := Option.map_eq_some_iff.1 hj
  split
  · next e => exact hi y (e ▸ hy)
  · next e => exact hne j y (Ne.symm e) hy

theorem setCells_getElem?_of_not_mem (ps : List Nat) (vals : List Int) (buf : List Int) (p : Nat)
    (hp : p ∉ ps) : (setCells buf ps vals)[p]? = buf[p]? :=
  List.foldlRecOn (motive := fun b => b[p]? = buf[p]?) _ _ rfl fun b hb pv hpv => by
    rw [List.getElem?_set_ne fun e : pv.1 = p => hp (e ▸ (List.of_mem_zip hpv).1), hb]

theorem bytesOf_congr {h h' : Heap} {o : Obj}
    (hb : ∀ p ∈ o.window, (h.bufs.getD o.buf []).getD p 0 = (h'.bufs.getD o.buf []).getD p 0) :
    bytesOf h o = bytesOf h' o :=
  List.map_congr_left hb

/-- a write to the cells `ps` of buffer `b` is invisible to an object that sees none of them -/
theorem bytesOf_write (h : Heap) {b : Nat} {ps : List Nat} (vals : List Int) {x : Obj}
    (hx : ps.any (fun p => sees x b p) = false) :
    bytesOf { h with bufs := h.bufs.modify b (fun buf => setCells buf ps vals) } x = bytesOf h x := by
  refine bytesOf_congr fun p hp => ?_
  simp only [List.getD_eq_getElem?_getD, List.getElem?_modify]
  cases h.bufs[x.buf]? with
  | none => rfl
  | some buf =>
    by_cases hb : b = x.buf
    · have hp' : p ∉ ps := fun hpin => List.any_eq_false.1 hx p hpin (by simp [sees, hb, hp])
      simp [hb, setCells_getElem?_of_not_mem ps vals buf p hp']
    · simp [hb]

theorem bytesOf_of_bufs_eq {h h' : Heap} (o : Obj) (hb : h'.bufs = h.bufs) : bytesOf h' o = bytesOf h o := by
  unfold bytesOf; rw [hb]

theorem freshObj_of_dirty {h : Heap} {o : Obj} (hd : o.dirty = true) : FreshObj h o :=
  fun _ => Or.inl hd

theorem freshObj_of_bytes_eq {h h' : Heap} {o : Obj} (hb : bytesOf h' o = bytesOf h o)
    (hf : FreshObj h o) : FreshObj h' o := by
  intro ht
  rw [hb]
  exact hf ht

theorem fresh_modify_dirty {h h' : Heap} {i : Nat} (hf : Fresh h)
    (hobjs : h'.objs = h.objs.modify i (fun o => { o with dirty := true }))
    (hb : ∀ o ∈ h.objs, bytesOf h' o = bytesOf h o) : Fresh h' := by
  rw [Fresh, hobjs]
  exact forall_mem_modify (fun _ _ => freshObj_of_dirty rfl) fun _ y _ hy =>
    freshObj_of_bytes_eq (hb y (List.mem_of_getElem? hy)) (hf y (List.mem_of_getElem? hy))

theorem fresh_of_objs_eq {h h' : Heap} (hf : Fresh h) (hobjs : h'.objs = h.objs)
    (hb : ∀ o ∈ h.objs, bytesOf h' o = bytesOf h o) : Fresh h' := by
  intro o ho
  rw [hobjs] at ho
  exact freshObj_of_bytes_eq (hb o ho) (hf o ho)

/-! ### the heap transformations the operations are composed of -/

/-- the conditional "mark object `i` dirty" of `write` / `view` / `copy` -/
theorem mark_bufs (c : Prop) [Decidable c] (h : Heap) (i : Nat) (f : Obj → Obj) :
    (if c then modifyObj h i f else h).bufs = h.bufs := by
  split <;> rfl

theorem fresh_mark {c : Prop} [Decidable c] {h : Heap} (i : Nat) (hf : Fresh h) :
    Fresh (if c then modifyObj h i (fun o => { o with dirty := true }) else h) := by
  split
  · exact fresh_modify_dirty hf rfl (fun _ _ => rfl)
  · exact hf

theorem modify_buf_lt {objs : List Obj} {i n : Nat} {f : Obj → Obj} (hfb : ∀ o, (f o).buf = o.buf)
    (hw : ∀ o ∈ objs, o.buf < n) : ∀ o ∈ objs.modify i f, o.buf < n :=
  forall_mem_modify (fun y hy => hfb y ▸ hw y (List.mem_of_getElem? hy))
    fun _ y _ hy => hw y (List.mem_of_getElem? hy)

theorem wfHeap_mark {c : Prop} [Decidable c] {h : Heap} (i : Nat) (hw : C02.WFHeap h) :
    C02.WFHeap (if c then modifyObj h i (fun o => { o with dirty := true }) else h) := by
  split
  · exact modify_buf_lt (fun _ => rfl) hw
  · exact hw

theorem fresh_push {h : Heap} {o' : Obj} (hd : o'.dirty = true) (hf : Fresh h) :
    Fresh { h with objs := h.objs ++ [o'] } :=
  List.forall_mem_append.2 ⟨hf, List.forall_mem_singleton.2 (freshObj_of_dirty hd)⟩

/-- appending a buffer does not change what objects on existing buffers see -/
theorem fresh_pushBuf {h : Heap} (b : List Int) (hw : C02.WFHeap h)
    (hf : Fresh h) : Fresh { h with bufs := h.bufs ++ [b] } :=
  fresh_of_objs_eq hf rfl fun o ho => bytesOf_congr fun p _ => by
    simp only [List.getD_eq_getElem?_getD, List.getElem?_append_left (hw o ho)]

/-! ### one step

`fun_cases step` has ten cases: in six the heap stays as it is (the target is missing, cases 1 3 5 7; a hash of an
untracked or of a clean object, cases 8 9); the others are write (2), view (4), copy (6) and a hash that
recomputes (10). -/

/-- one safe step keeps every object fresh; only `copy` needs every object to point at an existing buffer -/
theorem step_fresh (flagged : List String) (h : Heap) (op : Op) (hf : Fresh h)
    (hs : (match op with
      | .write i route cells _ => SafeWrite flagged h i route cells
      | _ => true) = true)
    (hw : (∃ i, op = .copy i) → C02.WFHeap h) :
    Fresh (step flagged h op).2 := by
  fun_cases step flagged h op
  case case2 i route cells vals o hi ps bufs h' =>
    simp only [SafeWrite, hi] at hs
    obtain ⟨hflag, hall⟩ := (Bool.and_eq_true _ _).mp hs
    rw [if_pos hflag]
    refine forall_mem_modify (fun _ _ => freshObj_of_dirty rfl) fun j x hji (hx : h.objs[j]? = some x) => ?_
    have hj := List.all_eq_true.mp hall j (List.mem_range.mpr (List.getElem?_eq_some_iff.mp hx).1)
    simp only [hx, Bool.or_eq_true, beq_iff_eq, hji, false_or, Bool.not_eq_true',
      Option.isNone_iff_eq_none] at hj
    rcases hj with ((hj | hj) | hj) | hj
    · exact fun ht => absurd ht (by simp [hj])
    · exact freshObj_of_dirty hj
    · exact fun _ => Or.inr (Or.inl hj)
    · -- a clean memo is kept only by objects that see none of the written cells
      exact freshObj_of_bytes_eq (bytesOf_write h vals hj) (hf x (List.mem_of_getElem? hx))
  case case4 => exact fresh_push rfl (fresh_mark _ hf)
  case case6 i o hi content o' h' =>
    exact fresh_push (h := { bufs := _ ++ [_], objs := _ }) rfl
      (fresh_pushBuf _ (wfHeap_mark i (hw ⟨i, rfl⟩)) (fresh_mark i hf))
  case case10 i o hi _ _ b =>
    refine forall_mem_modify (fun y hy _ => Or.inr (Or.inr ?_)) fun _ x _ hx =>
      freshObj_of_bytes_eq rfl (hf x (List.mem_of_getElem? hx))
    cases hi.symm.trans hy
    rfl
  all_goals exact hf

theorem step_fresh_of_not_copy (flagged : List String) (h : Heap) (op : Op) (hf : Fresh h)
    (hc : ∀ i, op ≠ .copy i)
    (hs : (match op with
      | .write i route cells _ => SafeWrite flagged h i route cells
      | _ => true) = true) : Fresh (step flagged h op).2 := by
  cases op <;> exact step_fresh flagged h _ hf hs fun ⟨i, hi⟩ => absurd hi (hc i)

theorem step_wfHeap (flagged : List String) (h : Heap) (op : Op) (hw : C02.WFHeap h) :
    C02.WFHeap (step flagged h op).2 := by
  fun_cases step flagged h op
  case case2 i route cells vals o hi ps bufs h' =>
    exact wfHeap_mark (h := h') i (by simpa [C02.WFHeap, h', bufs] using hw)
  case case4 i sel tracked o hi o' h' =>
    have hm : C02.WFHeap h' := wfHeap_mark i hw
    exact List.forall_mem_append.mpr ⟨hm, by simpa [h', mark_bufs] using hw o (List.mem_of_getElem? hi)⟩
  case case6 i o hi content o' h' =>
    have hm : C02.WFHeap h' := wfHeap_mark i hw
    exact List.forall_mem_append.mpr
      ⟨fun x hx => by simpa using Nat.lt_succ_of_lt (hm x hx), by simp [o', h', mark_bufs]⟩
  case case10 => exact modify_buf_lt (fun _ => rfl) hw
  all_goals exact hw

/-! ### why `step_fresh` asks for `C02.WFHeap` before a `copy`

`step_fresh` for a `copy`, and with it `C02_hash_correct_partial`, are FALSE without `hw`: an object whose
`buf` index equals `h.bufs.length` reads zeros (dangling), and `copy` appends a buffer exactly there,
changing its bytes while it holds a clean memo. -/
example :
    let hc : Heap := { bufs := [[5]], objs := [⟨0, [0], false, false, none⟩, ⟨1, [0], true, false, some [0]⟩] }
    Fresh hc ∧ SafeProgram [] hc [.copy 0] = true ∧
      ¬ Fresh (step [] hc (.copy 0)).2 ∧ ¬ Fresh (run [] hc [.copy 0]) := by
  decide

end TV.Tracked
